/-
  C01 — Direct-integration energy targets equal the exact thermodynamic minimum.

  `directTargets` is the model of `create_problem_table_with_t_int` +
  `problem_table_algorithm` + `set_zonal_targets` (tied to the code column by column by
  harness/opv/props/c01.py).  `deficit hot cold T` is the specification: total cold duty above
  `T` minus total hot duty above `T`, over exact rationals, for *any* temperature `T`.

  Grid hypothesis (`ChainOK` + `InRange`): the grid is strictly descending with gaps wider than
  the code's activity window `w = 10·tol`, no stream bound lies strictly inside a cell, and all
  streams lie within the grid range.  The code's own grid satisfies it whenever distinct shifted
  stream bounds are more than `w` apart (the driver evaluates it per case; the excluded region is
  exercised on the real code by the thorough tier).
-/
import OPModel.Proofs.CascadeClosed
import OPModel.Gen.Constants

namespace OP.C01
open OP

/-- Qh is the largest net heat deficit above any grid temperature and is attained; Qc and Qr
    close the balance.  For every number of streams and rows. -/
theorem di_targets_on_grid (tol w : Rat) (hw : 0 ≤ w) (htw : tol ≤ w) (hot cold : List Seg)
    (t0 : Rat) (rest : List Rat)
    (hr : InRange (cold ++ hot) ((t0 :: rest).getLast (List.cons_ne_nil _ _)) t0)
    (hch : ChainOK w (cold ++ hot) t0 rest) :
    ∃ t, directTargets tol w (t0 :: rest) hot cold = .ok t ∧
      (∀ x ∈ t0 :: rest, deficit hot cold x ≤ t.qh) ∧
      (∃ x ∈ t0 :: rest, deficit hot cold x = t.qh) ∧
      t.qc = t.qh - total cold + total hot ∧
      t.qr = total hot - t.qc := by
  obtain ⟨pt, q, hpt, hc, ht⟩ := cascade_spec hw htw hr hch
  exact ⟨⟨q, q - total cold + total hot, total hot - (q - total cold + total hot)⟩,
    by simp only [directTargets, hpt]; exact ht, hc.le, hc.att, rfl, rfl⟩

/-- **The full statement of C01**: Qh is the largest net heat deficit above *any* temperature
    (not only grid points), or zero; it is attained; Qc = Qh − ΣQ_cold + ΣQ_hot; Qr = ΣQ_hot − Qc. -/
theorem di_targets_exact (tol w : Rat) (hw : 0 ≤ w) (htw : tol ≤ w) (hot cold : List Seg)
    (t0 : Rat) (rest : List Rat)
    (hr : InRange (cold ++ hot) ((t0 :: rest).getLast (List.cons_ne_nil _ _)) t0)
    (hch : ChainOK w (cold ++ hot) t0 rest) :
    ∃ t, directTargets tol w (t0 :: rest) hot cold = .ok t ∧
      (∀ x : Rat, deficit hot cold x ≤ t.qh) ∧
      (∃ x, deficit hot cold x = t.qh) ∧ 0 ≤ t.qh ∧
      t.qc = t.qh - total cold + total hot ∧
      t.qr = total hot - t.qc := by
  obtain ⟨t, ht, hmax, ⟨xa, _, hatt⟩, hqc, hqr⟩ := di_targets_on_grid tol w hw htw hot cold t0 rest hr hch
  -- the deficit vanishes at the top row, so the maximum is not negative
  exact ⟨t, ht, deficit_le_of_grid w hw hot cold t0 rest hr hch t.qh hmax, ⟨xa, hatt⟩,
    hr.deficit_top le_rfl ▸ hmax t0 List.mem_cons_self, hqc, hqr⟩

/-- The activity window and tolerance of the code satisfy the side conditions of the theorems. -/
theorem window_ok : 0 ≤ Gen.activityFactor * Gen.tol ∧ Gen.tol ≤ Gen.activityFactor * Gen.tol := by
  constructor <;> decide +kernel

/-- Non-vacuity: a two-stream problem on its own grid meets `InRange` and `ChainOK`
    (H 200→120, 8000 kW and C 40→160, 6000 kW, both shifted by 10 K), and the model returns
    Qh = 0, Qc = 2000, Qr = 6000. -/
example : directTargets Gen.tol (Gen.activityFactor * Gen.tol) [190, 170, 110, 50]
    [⟨110, 190, 100, 100⟩] [⟨50, 170, 50, 50⟩] = .ok ⟨0, 2000, 6000⟩ := by decide +kernel

example : ChainOK (Gen.activityFactor * Gen.tol) ([⟨50, 170, 50, 50⟩] ++ [⟨110, 190, 100, 100⟩]) 190 [170, 110, 50] :=
  (chainOKb_iff _ _ _ _).mp (by decide +kernel)

end OP.C01

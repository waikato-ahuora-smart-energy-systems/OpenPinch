/-
  C09 — Total-site targets are additive over zones and bracketed by bounds.

  `sumTargets` / `sumDuties` model `_sum_subzone_targets`; `siteTargets` the total-site read-out.
  Proved: the total-process record is the field-wise sum; the total-site hot (cold) target never
  exceeds the summed hot (cold) utility duties — hence, with allocation closure (C03), never the
  sum of the zones' targets; the heat-recovery formula; and the LOWER bound (total-site targets are
  not below the site's own direct-integration targets) for every site whose zones' utility
  profiles are feasible (C04: above every temperature the net utility heat covers the zone's net
  deficit) and close (C03) — `ts_ge_di_of_feasible`, with `feasible_sum` carrying the hypothesis
  from the zones to the site.  Whether the code's zone profiles ARE feasible is C04's question; a
  change that breaks it (seeded C09-glide-cap-max) falsifies the hypothesis, not the theorem, and
  is found by the oracle.
-/
import OPModel.Properties.C01

namespace OP.C09
open OP

/-- The total-process record equals the sum of the zones' targets, value by value. -/
theorem tz_is_sum (ts : List Targets) :
    (sumTargets ts).qh = (ts.map (·.qh)).sum ∧ (sumTargets ts).qc = (ts.map (·.qc)).sum ∧
    (sumTargets ts).qr = (ts.map (·.qr)).sum := by
  rw [sumTargets_eq]
  exact ⟨rfl, rfl, rfl⟩

/-- **Upper bounds**: with non-negative duties the total-site hot target is at most the summed
    hot utility duty and the cold target at most the summed cold utility duty. -/
theorem ts_le_sum (tol w : Rat) (hw : 0 ≤ w) (htw : tol ≤ w) (hotU coldU : List Seg) (tz : Targets)
    (t0 : Rat) (rest : List Rat)
    (hr : InRange (coldU ++ hotU) ((t0 :: rest).getLast (List.cons_ne_nil _ _)) t0)
    (hch : ChainOK w (coldU ++ hotU) t0 rest) (hcp : ∀ s ∈ coldU ++ hotU, 0 ≤ s.cp) :
    ∃ t, siteTargets tol w (t0 :: rest) hotU coldU tz = .ok t ∧ t.qh ≤ total hotU ∧ t.qc ≤ total coldU := by
  obtain ⟨t, ht, _, ⟨x, _, hx⟩, hqc, _⟩ := site_spec hw htw tz hr hch
  -- Qh_TS is a value of the exchanged deficit, in which the hot utilities are the demand side
  have hqh : t.qh ≤ total hotU := hx ▸ hr.swap.deficit_le_total
    (fun s hs => hcp s (List.perm_append_comm.subset hs)) x
  exact ⟨t, ht, hqh, by rw [hqc]; exact add_le_of_nonpos_left (sub_nonpos.mpr hqh)⟩

/-- On every row of the utility grid the total-site hot target covers the net utility deficit
    (hot utility heat used above the row minus cold utility heat raised above it). -/
theorem ts_qh_grid (tol w : Rat) (hw : 0 ≤ w) (htw : tol ≤ w) (hotU coldU : List Seg) (tz : Targets)
    (t0 : Rat) (rest : List Rat)
    (hr : InRange (coldU ++ hotU) ((t0 :: rest).getLast (List.cons_ne_nil _ _)) t0)
    (hch : ChainOK w (coldU ++ hotU) t0 rest) :
    ∃ t, siteTargets tol w (t0 :: rest) hotU coldU tz = .ok t ∧
      t.qh - t.qc = total hotU - total coldU ∧
      ∀ x ∈ t0 :: rest, deficit coldU hotU x ≤ t.qh := by
  obtain ⟨t, ht, hle, _, hqc, _⟩ := site_spec hw htw tz hr hch
  exact ⟨t, ht, by rw [hqc]; ring, hle⟩

/-- **Lower bound** — indirect recovery through the utility system cannot beat direct recovery.
    `hot`, `cold`: all process streams of the site (shifted); `hotU`, `coldU`: the utility segments the
    zones ask for.  If above EVERY temperature the net utility heat covers the site's net process
    deficit (`hfeas`: the zones' utility profiles are feasible, C04) and the duties close the balance
    (`hclose`: C03 with C02), then the total-site targets are at least the site's own
    direct-integration targets, on any pair of admissible grids. -/
theorem ts_ge_di_of_feasible (tol w : Rat) (hw : 0 ≤ w) (htw : tol ≤ w)
    (hot cold hotU coldU : List Seg) (tz : Targets)
    (p0 : Rat) (prest : List Rat)
    (hrp : InRange (cold ++ hot) ((p0 :: prest).getLast (List.cons_ne_nil _ _)) p0)
    (hchp : ChainOK w (cold ++ hot) p0 prest)
    (u0 : Rat) (urest : List Rat)
    (hru : InRange (coldU ++ hotU) ((u0 :: urest).getLast (List.cons_ne_nil _ _)) u0)
    (hchu : ChainOK w (coldU ++ hotU) u0 urest)
    (hfeas : ∀ x : Rat, deficit hot cold x ≤ aboveAll hotU x - aboveAll coldU x)
    (hclose : total hotU - total coldU = total cold - total hot) :
    ∃ d t, directTargets tol w (p0 :: prest) hot cold = .ok d ∧
      siteTargets tol w (u0 :: urest) hotU coldU tz = .ok t ∧ d.qh ≤ t.qh ∧ d.qc ≤ t.qc := by
  obtain ⟨d, hd, _, ⟨xa, _, hxa⟩, hdqc, _⟩ := C01.di_targets_on_grid tol w hw htw hot cold p0 prest hrp hchp
  obtain ⟨t, ht, hgrid, _, htqc, _⟩ := site_spec hw htw tz hru hchu
  -- the utility surplus above the process pinch is at most Qh_TS, and covers Qh there
  have h1 : d.qh ≤ t.qh := hxa ▸ le_trans (hfeas xa)
    (deficit_le_of_grid w hw coldU hotU u0 urest hru.swap hchu.swap t.qh hgrid xa)
  -- both cold targets are the hot target less the same net duty
  exact ⟨d, t, hd, ht, h1, by rw [hdqc, htqc, sub_add, sub_add, hclose]; exact sub_le_sub_right h1 _⟩

/-- Feasibility is additive: if every zone's utility profile covers the zone's deficit above `x`,
    the site's utility segments cover the site's deficit above `x`. -/
theorem feasible_sum (zones : List (List Seg × List Seg × List Seg × List Seg)) (x : Rat)
    (h : ∀ z ∈ zones, deficit z.1 z.2.1 x ≤ aboveAll z.2.2.1 x - aboveAll z.2.2.2 x) :
    deficit (zones.map (·.1)).flatten (zones.map (·.2.1)).flatten x ≤
      aboveAll (zones.map (·.2.2.1)).flatten x - aboveAll (zones.map (·.2.2.2)).flatten x := by
  unfold deficit
  simp only [aboveAll_flatten, List.map_map, ← sum_map_sub]
  exact List.sum_le_sum h

/-- Non-vacuity of the lower bound (the site of seeded change C09-glide-cap-max, shifted scale):
    process deficit and the code's own utility segments at the top of the feed heater. -/
example : deficit [⟨191, 200, 2000 / 9, 2000 / 9⟩] [⟨210, 250, 100, 100⟩, ⟨105, 155, 20, 20⟩] 210 = 4000 ∧
    aboveAll [⟨294, 295, 318182 / 100, 318182 / 100⟩, ⟨155, 255, 181818 / 10000, 181818 / 10000⟩] 210
      - aboveAll [⟨189, 190, 0, 0⟩] 210 ≥ 4000 := by
  decide +kernel

/-- Total-site heat recovery = summed zonal recovery + hot utility saved. -/
theorem ts_qr_formula (tol w : Rat) (T : List Rat) (hotU coldU : List Seg) (tz t : Targets)
    (h : siteTargets tol w T hotU coldU tz = .ok t) : t.qr = tz.qr + (tz.qh - t.qh) := by
  unfold siteTargets at h
  obtain ⟨ut, _, h⟩ := Except.bind_ok h
  split at h
  · cases h; rfl
  · cases h

end OP.C09

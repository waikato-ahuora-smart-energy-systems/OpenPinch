/-
  C19 — Stream and stream-collection objects stay consistent under any use.
  Property theorems only; helper lemmas live in `OPModel/Proofs`.
  All statements are about the executable models `OP.Stream` / `OP.Coll`
  (tied to `OpenPinch/classes/stream.py`, `stream_collection.py` by the
  correspondence check of `harness/opv/props/c19.py`).
-/
import OPModel.Proofs.StreamInv
import OPModel.Proofs.CollInv
import OPModel.Gen.Constants

namespace OP.C19
open OP OP.Stream

/-- One setter call on a consistent stream never raises and leaves it consistent. -/
theorem step_consistent (iso : Rat) (hiso : 0 < iso) (s : Stream) (op : Op) (h : Consistent s) :
    (step iso s op).2 = none ∧ Consistent (step iso s op).1 := by
  obtain ⟨ts, tt, _, _, _, f1, f2, _⟩ := h.oriented
  cases op with
  | setTs v => exact update_consistent hiso { s with ts := some v } rfl f2
  | setTt v => exact update_consistent hiso { s with tt := some v } f1 rfl
  | setDt v => exact update_consistent hiso { s with dt := v } f1 f2
  | setQ v => exact update_consistent hiso { s with q := v } f1 f2
  | setHtc v => exact update_consistent hiso { s with htc := v } f1 f2
  | setHeatFlow v => exact setHeatFlow_consistent s v h

/-- The constructor with both temperatures given never raises and yields a consistent stream
    (including `t_supply = t_target`, any sign of duty, `htc = 0`). -/
theorem new_consistent (iso : Rat) (hiso : 0 < iso) (ts tt dt q htc price : Rat) :
    (new iso (some ts) (some tt) dt q htc price).2 = none ∧
    Consistent (new iso (some ts) (some tt) dt q htc price).1 :=
  update_consistent hiso _ rfl rfl

/-- **Every reachable state**: any finite sequence of setter calls, in any order, on a
    constructed stream runs without exception and ends in a consistent stream. -/
theorem run_consistent (iso : Rat) (hiso : 0 < iso) (ops : List Op) :
    ∀ s, Consistent s → (run iso s ops).2 = none ∧ Consistent (run iso s ops).1 := by
  induction ops with
  | nil => intro s h; exact ⟨rfl, h⟩
  | cons op ops ih =>
    intro s h
    obtain ⟨e, c⟩ := step_consistent iso hiso s op h
    unfold run
    generalize hst : step iso s op = r at e c
    obtain ⟨s', o⟩ := r
    cases o with
    | none => exact ih s' c
    | some x => cases e

/-- CP × temperature span = duty, for every reachable state. -/
theorem cp_times_span_eq_duty (s : Stream) (h : Consistent s) :
    ∃ cp lo hi, s.cp = some cp ∧ s.tmin = some lo ∧ s.tmax = some hi ∧ cp * (hi - lo) = s.q := by
  obtain ⟨_, _, lo, hi, _, _, _, f3, f4, _⟩ := h.oriented
  obtain ⟨cp, hc, he⟩ := h.duty lo hi f3 f4
  exact ⟨cp, lo, hi, hc, f3, f4, he⟩

/-- Minimum temperature strictly below maximum temperature. -/
theorem tmin_lt_tmax (s : Stream) (h : Consistent s) :
    ∃ lo hi, s.tmin = some lo ∧ s.tmax = some hi ∧ lo < hi := by
  obtain ⟨_, _, lo, hi, _, _, _, f3, f4, _, hlt, _⟩ := h.oriented
  exact ⟨lo, hi, f3, f4, hlt⟩

/-- Shifted bounds are the real bounds moved by the contribution in the direction of the
    stream's kind (down for hot, up for cold), and the kind is that of the current
    supply/target orientation. -/
theorem shift_direction_matches_kind (s : Stream) (h : Consistent s) :
    ∃ ts tt lo hi k, s.ts = some ts ∧ s.tt = some tt ∧ s.typ = some k ∧ (k = .hot ↔ tt < ts) ∧
      s.tmin = some lo ∧ s.tmax = some hi ∧
      s.tminS = some (match k with | .hot => lo - s.dt | .cold => lo + s.dt) ∧
      s.tmaxS = some (match k with | .hot => hi - s.dt | .cold => hi + s.dt) := by
  obtain ⟨ts, tt, lo, hi, k, f1, f2, f3, f4, f5, _, _, _, f9, f10, f11⟩ := h.oriented
  refine ⟨ts, tt, lo, hi, k, f1, f2, f5, f9, f3, f4, ?_, ?_⟩
  · cases k <;> exact f10
  · cases k <;> exact f11

/-- Resistance is the reciprocal of the film coefficient (whenever that is defined). -/
theorem htr_is_reciprocal (s : Stream) (h : Consistent s) (h0 : s.htc ≠ 0) : s.htr = 1 / s.htc :=
  h.htr h0

/-- **Where a latent load sits.**  A stream entered with equal supply and target temperature `T` is given a
    band of width `iso`: `[T, T + iso]` when it is cold (duty ≥ 0), `[T − iso, T]` when it is hot (duty < 0) —
    a condensing stream is never treated as hotter than its supply temperature.  (Seeded change
    C01-isothermal-hot-band-above puts the hot band at `[T, T + iso]`.) -/
theorem isothermal_band (iso : Rat) (hiso : 0 < iso) (T dt q htc price : Rat) :
    (0 ≤ q → (new iso (some T) (some T) dt q htc price).1.tmin = some T ∧
             (new iso (some T) (some T) dt q htc price).1.tmax = some (T + iso)) ∧
    (q < 0 → (new iso (some T) (some T) dt q htc price).1.tmax = some T ∧
             (new iso (some T) (some T) dt q htc price).1.tmin = some (T - iso)) := by
  obtain ⟨hmin, hmax⟩ := update_bounds hiso
    { ts := some T, tt := some T, dt := dt, q := q, htc := if htc = 0 then 1 else htc,
      htr := 1 / (if htc = 0 then 1 else htc), price := price } rfl rfl
  unfold new
  rw [hmin, hmax, orient, if_neg (lt_irrefl T), if_neg (lt_irrefl T)]
  constructor
  · intro hq
    rw [if_pos hq]
    exact ⟨rfl, rfl⟩
  · intro hq
    rw [if_neg (not_le.mpr hq)]
    exact ⟨rfl, rfl⟩

/-- The generated isothermal offset is positive, so the theorems above apply to the code's constant. -/
theorem isoOffset_pos : 0 < Gen.isoOffset := by decide +kernel

/-- Non-vacuity: a concrete history through a re-orientation and an isothermal step. -/
example : (run Gen.isoOffset (new Gen.isoOffset (some 100) (some 50) 5 500 2 40).1
    [.setTs 20, .setHeatFlow 300, .setTt 20, .setDt 3]).2 = none := by decide +kernel

open OP.Coll

/-- Insertion never loses or replaces a member: with `prevent_overwrite` (the default) `add`
    cannot fail, the members afterwards are exactly the old members plus the new one, and the
    reported length grows by one — whatever keys clash (the renaming loop always terminates). -/
theorem add_never_loses (c : Coll) (h : Coll.Inv c) (o : Obj) (key : Option String) :
    ∃ c', c.add o key true = .ok c' ∧ c'.values = c.values ++ [o] ∧ c'.len = c.len + 1 ∧ Coll.Inv c' :=
  add_prevent_spec o key h

theorem add_many_never_loses (c : Coll) (h : Coll.Inv c) (os : List Obj) :
    ∃ c', c.addMany os true = .ok c' ∧ c'.values = c.values ++ os ∧ c'.len = c.len + os.length ∧ Coll.Inv c' :=
  addMany_prevent_spec os h

/-- Every operation preserves the invariant (unique keys, valid sort cache). -/
theorem applyOp_inv (c : Coll) (h : Coll.Inv c) (op : COp) : Coll.Inv (c.applyOp op) := by
  cases op with
  | add o key p =>
    obtain ⟨c', e, i⟩ := add_inv o key p h
    simp only [applyOp, e]; exact i
  | addMany os p =>
    obtain ⟨c', e, i⟩ := addMany_inv os p h
    simp only [applyOp, e]; exact i
  | remove k =>
    simp only [applyOp]
    cases hr : c.remove k with
    | ok c' => exact (remove_inv h hr).1
    | error _ => exact h
  | replace os => exact replace_inv c os
  | setSortKey k r => exact inv_of_dirty h.nodup rfl
  | iter => exact (ensureSorted_spec h).1
  | getIndex o => rw [applyOp, getIndex_fst]; exact (ensureSorted_spec h).1
  | getItem i => rw [applyOp, getItemInt_fst]; exact (ensureSorted_spec h).1

/-- **Every reachable state** of a collection satisfies the invariant. -/
theorem reachable_inv (ops : List COp) : Coll.Inv (ops.foldl applyOp {}) :=
  List.foldlRecOn ops applyOp inv_empty fun c hc op _ => applyOp_inv c hc op

/-- Iteration yields exactly the members (a permutation of them), in the order of the sort key,
    and as many as `len` reports. -/
theorem iter_is_sorted_members (c : Coll) (h : Coll.Inv c) :
    c.iter.2.Perm c.values ∧ c.iter.2.length = c.len ∧
    c.iter.2.Pairwise (fun a b => if c.rev then c.key.le b a = true else c.key.le a b = true) := by
  obtain ⟨_, hc, _, _, _⟩ := ensureSorted_spec h
  obtain ⟨hp, hs⟩ := sortObjs_spec c.key c.rev c.values
  simp only [iter, hc]
  exact ⟨hp, hp.length_eq.trans (List.length_map _), hs⟩

/-- … in particular after any history of operations. -/
theorem history_iter_sorted (ops : List COp) :
    let c := ops.foldl applyOp {}
    c.iter.2.Perm c.values ∧ c.iter.2.length = c.len ∧
    c.iter.2.Pairwise (fun a b => if c.rev then c.key.le b a = true else c.key.le a b = true) :=
  iter_is_sorted_members _ (reachable_inv ops)

/-- Concatenation never fails and holds every member of both operands, in order. -/
theorem concat_holds_all (a b : Coll) :
    ∃ c, Coll.concat a b = .ok c ∧ c.values = a.values ++ b.values ∧ c.len = a.len + b.len ∧ Coll.Inv c := by
  obtain ⟨c1, e1, v1, l1, i1⟩ := addMany_prevent_spec a.values inv_empty
  obtain ⟨c2, e2, v2, l2, i2⟩ := addMany_prevent_spec b.values i1
  refine ⟨c2, ?_, ?_, ?_, i2⟩
  · simp only [Coll.concat, e1]; exact e2
  · rw [v2, v1]; rfl
  · rw [l2, l1]; simp [values, len]

/-- Non-vacuity: three clashing names. -/
example : (([COp.add ⟨1, "a", 10, 20⟩ none true, .add ⟨2, "a", 30, 5⟩ none true,
    .add ⟨3, "a_1", 30, 7⟩ none true].foldl applyOp {}).keys) = ["a", "a_1", "a_1_1"] := by decide +kernel

end OP.C19

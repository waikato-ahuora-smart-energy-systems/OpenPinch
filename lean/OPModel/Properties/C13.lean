/-
  C13 — Graph payloads reproduce the curves of the problem tables.

  Proved here, for series of any length, about the code-shaped model of the run segmentation of a
  grand-composite series (`_segment_bounds`, `_iter_gcc_segment_slices`, `_classify_segment`; tied
  to the code on 1500+ random columns per run):
    * `bounds_ordered`: the non-flat extent is a proper range (start ≤ end), flat series included;
    * `runs_tile`: the emitted runs tile the extent exactly — the first starts at `start`, each next
      one starts on the point where the previous one ended, the last ends at `end`, none is empty —
      so the emitted points of a series are exactly the cleaned points of its non-flat extent;
    * `runs_homogeneous`: inside a run every step has the run's class (sign of the enthalpy change,
      or vertical within GCC_VERTICAL_TOL) — classification follows the sign;
    * `runs_maximal`: neighbouring runs have different classes.
  Together with `C17.clean_sublist` (cleaning only removes points) this is the structural half of the
  property.  That the cleaned points stay within display rounding of the table column (false in
  general: C17 drift finding), extents = Qh/Qc/duties, one graph set per record with the documented
  types: decided by the oracle on the service output.
-/
import OPModel.Proofs.GraphLemmas
import OPModel.Proofs.Basic
import OPModel.Gen.Constants

namespace OP.C13
open OP

theorem bounds_ordered (tol : Rat) (x : Array Rat) : segStart tol x ≤ segEnd tol x := by
  unfold segStart
  cases hs : (List.range (x.size - 1)).find? fun i : Nat => decide (tol < rabs (x[i]! - x[i + 1]!)) with
  | none => exact Nat.zero_le _
  | some i =>
    have hi : tol < rabs (x[i]! - x[i + 1]!) := of_decide_eq_true (List.find?_some hs :)
    have him : i < x.size - 1 := List.mem_range.mp (List.mem_of_find?_eq_some hs)
    -- `i + 1` is a candidate of the backward search and passes its test
    obtain ⟨r, hr, hlt⟩ := find?_countdown_gt (p := fun i : Nat => decide (tol < rabs (x[i]! - x[i - 1]!)))
      (decide_eq_true (by rw [rabs_sub_comm]; exact hi)) him
    unfold segEnd
    rw [hr]
    exact Nat.le_of_lt hlt

/-- **The runs tile the non-flat extent.** -/
theorem runs_tile (tol vtol : Rat) (x : Array Rat) :
    Tiles (gccSlices tol vtol x).2.2 (gccSlices tol vtol x).1 (gccSlices tol vtol x).2.1 := by
  dsimp only [gccSlices]
  exact (slices_spec vtol x (bounds_ordered tol x) (Nat.le_succ _)).1

/-- **Classification follows the sign of the enthalpy change**: every step of a run has the run's class. -/
theorem runs_homogeneous (tol vtol : Rat) (x : Array Rat) :
    ∀ t ∈ (gccSlices tol vtol x).2.2, ∀ k, t.2.1 ≤ k → k < t.2.2 → classify vtol (diffAt x k) = t.1 := by
  dsimp only [gccSlices]
  exact (slices_spec vtol x (bounds_ordered tol x) (Nat.le_succ _)).2.1

/-- **Runs are maximal**: neighbouring runs differ in class. -/
theorem runs_maximal (tol vtol : Rat) (x : Array Rat) :
    List.IsChain (fun a b => a.1 ≠ b.1) (gccSlices tol vtol x).2.2 := by
  dsimp only [gccSlices]
  exact (slices_spec vtol x (bounds_ordered tol x) (Nat.le_succ _)).2.2.1

theorem tolerances_ok : 0 ≤ Gen.tol ∧ 0 ≤ Gen.gccVerticalTol ∧ Gen.graphDecimalPlaces = 2 := by decide +kernel

example : gccSlices (1 / 1000000) (1 / 1000) #[500, 500, 400, 450, 450, 700, 700]
    = (1, 5, [(.cold, 1, 2), (.hot, 2, 3), (.vert, 3, 4), (.hot, 4, 5)]) := by decide +kernel

end OP.C13

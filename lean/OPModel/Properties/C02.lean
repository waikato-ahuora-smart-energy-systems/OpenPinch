/-
  C02 — Every reported target closes the first-law energy balance.

  Direct-integration records: corollaries of the C01 closed form.  Total-process records: sums
  of balanced records are balanced.  Total-site records: the utility-system cascade
  (`siteTargets`, model of `_get_site_utility_heat_cascade` + the `H_net_ut` read-out, tied to the
  code by harness/opv/props/c02.py) closes the balance of the summed utility duties; together with
  allocation closure of every zone (C03: Σ hot duties = Qh_z, Σ cold duties = Qc_z — a hypothesis
  here, `Closure`) this is the stream balance of the site.
-/
import OPModel.Properties.C01
import Mathlib.Tactic.Linarith

namespace OP.C02
open OP

/-- **Direct integration**: Qh − Qc = ΣQ_cold − ΣQ_hot, Qr = ΣQ_hot − Qc, and with non-negative
    heat-capacity flow rates all three are non-negative. -/
theorem di_balance (tol w : Rat) (hw : 0 ≤ w) (htw : tol ≤ w) (hot cold : List Seg)
    (t0 : Rat) (rest : List Rat)
    (hr : InRange (cold ++ hot) ((t0 :: rest).getLast (List.cons_ne_nil _ _)) t0)
    (hch : ChainOK w (cold ++ hot) t0 rest) (hcp : ∀ s ∈ cold ++ hot, 0 ≤ s.cp) :
    ∃ t, directTargets tol w (t0 :: rest) hot cold = .ok t ∧
      t.qh - t.qc = total cold - total hot ∧ t.qr = total hot - t.qc ∧
      0 ≤ t.qh ∧ 0 ≤ t.qc ∧ 0 ≤ t.qr := by
  obtain ⟨t, ht, hmax, ⟨xa, hatt⟩, h0, hqc, hqr⟩ := C01.di_targets_exact tol w hw htw hot cold t0 rest hr hch
  -- Qh is a deficit, so at most the cold duty; Qc is Qh minus the deficit at the bottom row
  have hqh : t.qh ≤ total cold := hatt ▸ hr.deficit_le_total hcp xa
  have hbot := hr.deficit_bot le_rfl ▸ hmax _
  exact ⟨t, ht, by rw [hqc]; ring, hqr, h0, by rw [hqc, sub_add]; exact sub_nonneg.mpr hbot,
    by rw [hqr, hqc, sub_add_cancel_right, neg_sub]; exact sub_nonneg.mpr hqh⟩

/-- **The utility duties of a record differ by the same net amount.**  Whenever the allocation closes within
    `tol` on both sides (C03: `covering_ladder_closes_hot` / `_cold`) and the record closes the balance, the
    listed hot and cold utility duties differ from `ΣQ_cold − ΣQ_hot` by at most `tol`; with exact closure
    they differ by exactly that amount. -/
theorem utility_net_of_closure (tol : Rat) (t : Targets) (hu cu : List Rat) (totC totH : Rat)
    (hbal : t.qh - t.qc = totC - totH)
    (hh : t.qh - tol ≤ hu.sum ∧ hu.sum ≤ t.qh) (hc : t.qc - tol ≤ cu.sum ∧ cu.sum ≤ t.qc) :
    rabs ((hu.sum - cu.sum) - (totC - totH)) ≤ tol ∧
    (hu.sum = t.qh → cu.sum = t.qc → hu.sum - cu.sum = totC - totH) := by
  constructor
  · rw [rabs_eq_abs, ← hbal]
    exact abs_le.mpr ⟨by linarith only [hh.1, hc.2], by linarith only [hh.2, hc.1]⟩
  · intro e1 e2; rw [e1, e2]; exact hbal

/-- **Total-process record**: the sum of records that each close the balance closes the balance
    of the summed stream duties. -/
theorem tz_balance (ts : List Targets) (cs hs : List Rat) (hlen1 : cs.length = ts.length) (hlen2 : hs.length = ts.length)
    (hbal : ∀ i (h : i < ts.length), ts[i].qh - ts[i].qc = cs[i]'(by omega) - hs[i]'(by omega) ∧
      ts[i].qr = hs[i]'(by omega) - ts[i].qc) :
    (sumTargets ts).qh - (sumTargets ts).qc = cs.sum - hs.sum ∧ (sumTargets ts).qr = hs.sum - (sumTargets ts).qc := by
  rw [sumTargets_eq]
  simp only
  induction ts generalizing cs hs with
  | nil =>
    rw [List.length_eq_zero_iff.mp hlen1, List.length_eq_zero_iff.mp hlen2]
    simp only [List.map_nil, List.sum_nil, sub_self, and_self]
  | cons t ts ih =>
    obtain ⟨c, cs, rfl⟩ := List.exists_cons_of_length_eq_add_one hlen1
    obtain ⟨h, hs, rfl⟩ := List.exists_cons_of_length_eq_add_one hlen2
    obtain ⟨h1, h2⟩ : t.qh - t.qc = c - h ∧ t.qr = h - t.qc := hbal 0 (Nat.zero_lt_succ _)
    obtain ⟨a, b⟩ := ih cs hs (Nat.succ.inj hlen1) (Nat.succ.inj hlen2)
      (fun i hi => hbal (i + 1) (Nat.succ_lt_succ hi))
    simp only [List.map_cons, List.sum_cons]
    -- both sides regrouped as (first record) + (the others)
    exact ⟨by rw [add_sub_add_comm, add_sub_add_comm, h1, a], by rw [h2, b, add_sub_add_comm]⟩

/-- **Total-site record**: the utility-system cascade gives Qh_TS − Qc_TS = Σ(hot utility duties) −
    Σ(cold utility duties) with both targets non-negative; and Qr_TS = ΣQr_z + ΣQh_z − Qh_TS. -/
theorem ts_balance (tol w : Rat) (hw : 0 ≤ w) (htw : tol ≤ w) (hotU coldU : List Seg) (tz : Targets)
    (t0 : Rat) (rest : List Rat)
    (hr : InRange (coldU ++ hotU) ((t0 :: rest).getLast (List.cons_ne_nil _ _)) t0)
    (hch : ChainOK w (coldU ++ hotU) t0 rest) :
    ∃ t, siteTargets tol w (t0 :: rest) hotU coldU tz = .ok t ∧
      t.qh - t.qc = total hotU - total coldU ∧ 0 ≤ t.qh ∧ 0 ≤ t.qc ∧ t.qr = tz.qr + (tz.qh - t.qh) := by
  obtain ⟨t, ht, hle, _, hqc, hqr⟩ := site_spec hw htw tz hr hch
  -- the exchanged deficit is 0 at the top row and ΣHU − ΣCU at the bottom row
  have htop := hr.swap.deficit_top le_rfl ▸ hle t0 List.mem_cons_self
  have hbot := hr.swap.deficit_bot le_rfl ▸ hle _ (List.getLast_mem _)
  exact ⟨t, ht, by rw [hqc]; ring, htop, by rw [hqc, sub_add]; exact sub_nonneg.mpr hbot, hqr⟩

/-- Generation/use matching at one level subtracts the same duty from both sides and never goes
    negative: the net is preserved. -/
theorem match_preserves_net (qh qc : Rat) (hh : 0 ≤ qh) (hc : 0 ≤ qc) :
    (matchPair qh qc).1 - (matchPair qh qc).2 = qh - qc ∧ 0 ≤ (matchPair qh qc).1 ∧ 0 ≤ (matchPair qh qc).2 := by
  unfold matchPair
  simp only
  exact ⟨sub_sub_sub_cancel_right qh qc _, sub_nonneg.mpr (min_le_left qh qc), sub_nonneg.mpr (min_le_right qh qc)⟩

end OP.C02

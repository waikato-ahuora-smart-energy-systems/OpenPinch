/-
  C17 — Curve simplification stays within its tolerance.

  `rdp` (Model/Curves.lean) is the code-shaped model of `_rdp` (explicit stack ranges as a
  recursion, first-maximum scan with strict `>`, the `continue` on a zero-length chord); it is
  tied to the code on the kept indices by harness/opv/props/c17.py.  `cleanCurve` models
  `clean_composite_curve`.

  Proved here for every polyline of any length and every tolerance:
    * `rdp` keeps both end points, returns indices in strictly increasing (= original) order,
      and between two neighbouring kept points every original point is within `eps` of the chord
      (squared form, no square root); for a point lying coordinatewise between the chord ends —
      every point of a monotone profile does — that is a bound on the distance from the chord
      *segment*, i.e. from the simplified polyline;
    * `cleanCurve` returns a sub-list of the original points.
  NOT true of the code (and so not a theorem): that `clean_composite_curve` keeps every original
  point within 1e-6 of the kept polyline — `clean_drift_witness` is a kernel-checked counterexample
  on the model, replayed on the implementation from corpus/C17 (known finding); and the one-sided
  bound of `get_piecewise_data_points`, which the SLSQP refinement (not modelled: a numerical
  optimiser) is meant to provide and the plain-RDP path never enforces (known findings).
-/
import OPModel.Proofs.CurveLemmas

namespace OP.C17
open OP

/-- **Both end points are kept** (two or more points). -/
theorem rdp_ends (pts : Array P2) (eps : Rat) (h : 2 ≤ pts.size) :
    (rdp pts eps).head? = some 0 ∧ (rdp pts eps).getLast? = some (pts.size - 1) := by
  rw [rdp_of_two_le pts eps h]
  exact ⟨rfl, List.getLast?_concat⟩

/-- **Neighbouring kept points cover everything between them.**  The output is a chain in which
    each kept index is followed by a larger one, and every original point strictly between two
    neighbours `a`, `b` satisfies `cross² ≤ eps²·|b−a|²` — it is within `eps` of their chord. -/
theorem rdp_chain (pts : Array P2) (eps : Rat) (h : 2 ≤ pts.size) :
    List.IsChain (Cov pts eps) (rdp pts eps) := by
  rw [rdp_of_two_le pts eps h]
  exact rdpRange_chain pts eps (Nat.sub_pos_of_lt h) (Nat.sub_le pts.size 1)

/-- **Original order**: the kept indices are strictly increasing. -/
theorem rdp_sorted (pts : Array P2) (eps : Rat) (h : 2 ≤ pts.size) :
    (rdp pts eps).Pairwise (· < ·) := by
  have hc := (rdp_chain pts eps h).imp (S := (· < ·)) (fun _ _ hab => hab.1)
  exact List.isChain_iff_pairwise.mp hc

/-- **Within the deviation of the simplified polyline.**  If `a`, `b` are neighbours in the output
    and the original point `i` between them lies coordinatewise between `pts[a]` and `pts[b]`
    (true for every point of a profile monotone in h and T), then some point of the segment
    `pts[a]`–`pts[b]` is within `eps` of `pts[i]` (squared Euclidean distance ≤ eps²). -/
theorem rdp_within_segment (pts : Array P2) (eps : Rat) (a b i : Nat) (hab : Cov pts eps a b)
    (hai : a < i) (hib : i < b)
    (hx : (pts[a]!.1 ≤ pts[i]!.1 ∧ pts[i]!.1 ≤ pts[b]!.1) ∨ (pts[b]!.1 ≤ pts[i]!.1 ∧ pts[i]!.1 ≤ pts[a]!.1))
    (hy : (pts[a]!.2 ≤ pts[i]!.2 ∧ pts[i]!.2 ≤ pts[b]!.2) ∨ (pts[b]!.2 ≤ pts[i]!.2 ∧ pts[i]!.2 ≤ pts[a]!.2)) :
    ∃ t : Rat, 0 ≤ t ∧ t ≤ 1 ∧
      (pts[i]!.1 - (pts[a]!.1 + t * (pts[b]!.1 - pts[a]!.1))) * (pts[i]!.1 - (pts[a]!.1 + t * (pts[b]!.1 - pts[a]!.1))) +
      (pts[i]!.2 - (pts[a]!.2 + t * (pts[b]!.2 - pts[a]!.2))) * (pts[i]!.2 - (pts[a]!.2 + t * (pts[b]!.2 - pts[a]!.2)))
        ≤ eps * eps :=
  within_segment hx hy (hab.2 i hai hib)

/-- **Cleaning only removes points**: whatever `clean_composite_curve` returns is a sub-list of
    the original `(x, y)` points, in the original order. -/
theorem clean_sublist (tol : Rat) (y x : List Rat) (out : List (Rat × Rat))
    (h : cleanCurve tol y x = .ok out) : out.Sublist (x.zip y) := by
  unfold cleanCurve at h
  obtain ⟨r, _, h⟩ := Except.bind_ok h
  rcases r with _ | ⟨s, e⟩
  · cases h; exact List.nil_sublist _
  · dsimp only at h
    have hpts : (((x.zip y).drop s).take (e + 1 - s)).Sublist (x.zip y) :=
      (List.take_sublist _ _).trans (List.drop_sublist _ _)
    generalize ((x.zip y).drop s).take (e + 1 - s) = pts0 at h hpts
    by_cases hlen0 : pts0.length ≤ 2
    · rw [if_pos hlen0] at h; cases h; exact hpts
    rw [if_neg hlen0] at h
    have hpts : (dedupAdj pts0).Sublist (x.zip y) := (dedupAdj_sublist pts0).trans hpts
    generalize dedupAdj pts0 = pts at h hpts
    by_cases hlen : pts.length ≤ 2
    · rw [if_pos hlen] at h; cases h; exact hpts
    · rw [if_neg hlen] at h
      split at h
      · rename_i first last hf hl
        cases h
        exact ((dropLastKept_sub tol _).trans (dropFirstKept_sub tol _)).trans
          ((cons_keepInterior_concat_sublist tol hf hl (Nat.le_of_lt (Nat.not_le.mp hlen))).trans hpts)
      · cases h

/-- **Counterexample (model level) to "never moves the curve by more than 1e-6".**  A slowly bending
    run: each interior point is within 1e-6 (vertically) of the chord of its two original
    neighbours, so all are removed, but the middle one is 8.1e-6 from the chord that remains. -/
theorem clean_drift_witness :
    cleanCurve (1 / 1000000) [390, 370, 350, 330, 310, 290, 270]
      [500, 700 + 9 / 1000000, 900 + 36 / 1000000, 1100 + 81 / 1000000, 1300 + 144 / 1000000,
       1500 + 225 / 1000000, 1700 + 324 / 1000000]
      = .ok [(500, 390), (1700 + 324 / 1000000, 270)] ∧
    (1 : Rat) / 1000000 <
      rabs (330 - (390 + (270 - 390) * ((1100 + 81 / 1000000) - 500) / ((1700 + 324 / 1000000) - 500))) := by
  decide +kernel

/-- **Knees and turning points survive the middle loop.**  Whatever the curve, an interior point that is a
    turning point of a vertical run (its neighbours share an abscissa it does not have) or that lies more
    than `tol` — measured in `y`, i.e. in kelvin — off the chord through its two neighbours is among the
    points `clean_composite_curve`'s middle loop keeps.  (Seeded changes C13-vertical-run-drops-turning-point
    and C17-cross-multiplied-collinearity — the latter measures deviation × chord width instead — make this
    statement false of the code.) -/
theorem knees_and_turning_points_kept (tol : Rat) (l : List (Rat × Rat)) (i : Nat) (h : i + 2 < l.length)
    (hoff : OffChord tol l[i] l[i + 1] l[i + 2]) : l[i + 1] ∈ keepInterior tol l := by
  induction l generalizing i with
  | nil => exact absurd h (Nat.not_lt_zero _)
  | cons p1 l ih =>
    cases i with
    | succ i => exact mem_keepInterior_cons (ih i (Nat.lt_of_succ_lt_succ h) hoff)
    | zero =>
      obtain _ | ⟨p2, _ | ⟨p3, rest⟩⟩ := l
      · exact absurd h (by decide : ¬ 2 < 1)
      · exact absurd h (by decide : ¬ 2 < 2)
      · have hoff : OffChord tol p1 p2 p3 := hoff
        rw [keepInterior_of_off hoff]
        exact List.mem_cons_self

/-- **A repeated point no longer hides the corner it sits on** (fix bdc25b9; kernel-decided): the
    utility grand composite curve of a site whose table, rounded for output, lists 47.0 and 46.99
    twice — the corner `(0, 46.99)` between the zero run and the cold utility is kept. -/
theorem repeated_point_keeps_corner :
    cleanCurve (1 / 1000000) [3911 / 10, 391, 47, 47, 4699 / 100, 4699 / 100, 4689 / 100, 43]
      [18081, 0, 0, 0, 0, 0, 6481, 6481]
      = .ok [(18081, 3911 / 10), (0, 391), (0, 4699 / 100), (6481, 4689 / 100)] := by
  decide +kernel

/-- A kinked profile: the kink is kept, the collinear points are dropped. -/
example : rdp #[(0, 0), (10, 1), (20, 2), (30, 30), (40, 31)] (1 / 2) = [0, 2, 3, 4] := by decide +kernel

example : Cov #[(0, 0), (10, 1), (20, 2), (30, 30), (40, 31)] (1 / 2) 0 2 := by
  refine ⟨Nat.zero_lt_two, ?_⟩
  intro i h1 h2
  obtain rfl : i = 1 := Nat.le_antisymm (Nat.le_of_lt_succ h2) h1
  unfold Within
  decide +kernel

end OP.C17

/-
  C03 — Multi-utility targeting allocates exactly the target duty.

  `targetUtility` / `assignUtility` / `maximiseUtilityDuty` model `_target_utility`,
  `_assign_utility`, `_maximise_utility_duty` (tied to the code on 1500+ synthetic profiles × utility
  ladders per run by harness/opv/props/c03model.py).  Proved for all profiles and ladders: duties
  are non-negative, never exceed the profile, unreachable utilities get nothing, and — on
  either side — a ladder that ends with a utility lying wholly beyond the segment (what the default
  utilities are) closes the allocation within `tol` (`covering_ladder_closes_hot` / `_cold`).
  That such a utility EXISTS after the data preparation is `hot_cover_exists` (model of
  `_find_extreme_process_temperatures` / `_complete_utility_data` / `_add_default_utilities`, tied to the
  code by the `defaults` correspondence): some active hot utility's whole shifted band lies at or above
  every cold stream's shifted target.  The mirror statement for the cold side is FALSE of the code —
  `cold_cover_fails_witness`, kernel-decided: the sufficiency test subtracts the contribution of a cold
  utility although a cold utility is shifted UP (known finding C03-cold-sufficiency-sign) — so the
  unconditional statement "the duties always sum to Qh / Qc" is not claimed as a theorem.
-/
import OPModel.Proofs.UtilityClosure
import OPModel.Gen.Constants

namespace OP.C03
open OP

/-- **Duties are non-negative and never exceed the profile**: for every segment, every ladder
    and either side, whatever was assigned before. -/
theorem duties_nonneg_and_bounded (tol : Rat) (htol : 0 ≤ tol) (T H : List Rat) (isHot : Bool) (limit M : Rat)
    (hM : ∀ h ∈ H, h ≤ M) (hM0 : 0 ≤ M) (us : List ULevel) :
    (∀ d ∈ assignLoop tol T H isHot limit 0 us, 0 ≤ d) ∧ (assignLoop tol T H isHot limit 0 us).sum ≤ M := by
  have := assignLoop_bounds htol T isHot limit hM us hM0
  rwa [zero_add] at this

/-- **A utility that cannot reach the segment gets nothing**: if its supply level is more than
    `tol` colder than every row of a heating segment (hotter, for a cooling segment), the maximum
    duty is 0 — no interval passes the supply test. -/
theorem unreachable_gets_zero (tol : Rat) (T H : List Rat) (u : ULevel) (isHot : Bool) (qA : Rat)
    (h : ∀ t ∈ T, if isHot then u.ts - t < -tol else t - u.ts < -tol) :
    maximiseUtilityDuty tol T H u isHot qA = 0 := by
  rcases maximise_spec tol T H u isHot qA with ⟨h0, _⟩ | ⟨⟨c, hc, _⟩, _⟩
  · exact h0
  · -- a valid interval would have a row the supply level reaches
    obtain ⟨cell, hcell, ⟨_, hs, _⟩, _⟩ := mem_candidates.mp hc
    have := h (adj isHot cell).1 (List.of_mem_zip (adj_mem isHot hcell)).1
    cases isHot <;> exact absurd this (not_lt.mpr hs)

/-- **A ladder that ends with a covering hot utility allocates exactly the target** (within `tol`):
    for every heating segment with a non-increasing load profile from `limit = Qh` at the top to
    less at the pinch, every ladder `pre` of utilities of any kind, and a last utility whose supply
    and target levels are at least as hot as every row — the duties add up to `limit`, up to the
    `tol` the loop itself stops at. -/
theorem covering_ladder_closes_hot (tol : Rat) (htol : 0 ≤ tol) (T H : List Rat) (pre : List ULevel) (uc : ULevel) (limit : Rat)
    (hcov : ∀ t ∈ T, t ≤ uc.tt ∧ -tol ≤ uc.ts - t)
    (hlen : T.length = H.length) (hmono : H.Pairwise (· ≥ ·)) (hhead : H.head? = some limit)
    (hlast : ∃ z, H.getLast? = some z ∧ z < limit) (h0 : 0 ≤ limit) :
    limit - tol ≤ (assignLoop tol T H true limit 0 (pre ++ [uc])).sum ∧
    (assignLoop tol T H true limit 0 (pre ++ [uc])).sum ≤ limit := by
  have hM := le_head_of_desc hmono hhead
  have := assignLoop_closes htol T true uc hM
    (fun _ => maximise_covering htol (fun t ht => ⟨sub_nonneg.mpr (hcov t ht).1, (hcov t ht).2⟩)
      hlen hM hhead (exists_ne_of_end_lt (Or.inr rfl) hlast))
    pre [] h0
  rwa [zero_add] at this

/-- **Any ladder that CONTAINS a utility lying at or above the level where the heating demand starts closes
    the hot allocation** — wherever that utility stands in the processing order and whatever comes before or
    after it.  `m` is a level at or below which every decreasing interval of the profile starts (rows above
    the hottest shifted cold target carry no heating demand); the utility's shifted band `[tt, ts]` lies at or
    above `m` — which is what `hot_cover_exists` provides with `m = HU_T_min`. -/
theorem ladder_with_cover_closes_hot (tol : Rat) (htol : 0 ≤ tol) (T H : List Rat) (pre post : List ULevel) (uc : ULevel)
    (limit m : Rat) (hm : m ≤ uc.tt) (hts : uc.tt ≤ uc.ts)
    (hstart : ∀ c ∈ candidates.cells' (T.zip H), c.1.2 ≠ c.2.2 → c.1.1 ≤ m)
    (hlen : T.length = H.length) (hdesc : T.Pairwise (· > ·)) (hmono : H.Pairwise (· ≥ ·))
    (hhead : H.head? = some limit) (hlast : ∃ z, H.getLast? = some z ∧ z < limit) (h0 : 0 ≤ limit) :
    limit - tol ≤ (assignLoop tol T H true limit 0 (pre ++ uc :: post)).sum ∧
    (assignLoop tol T H true limit 0 (pre ++ uc :: post)).sum ≤ limit := by
  have hM := le_head_of_desc hmono hhead
  have := assignLoop_closes htol T true uc hM
    (fun _ => maximise_covering_from htol (sub_nonneg.mpr hm) (sub_nonneg.mpr hts)
      (fun c hc hne => sub_nonneg.mpr (hstart c hc hne)) hlen hdesc hM hhead (exists_ne_of_end_lt (Or.inr rfl) hlast))
    pre post h0
  rwa [zero_add] at this

/-- **… and on the cooling side**: a cold utility whose shifted band lies at or below the level `m` at or above
    which every non-flat interval of the cooling profile ends closes the cold allocation, wherever it stands.
    (Unlike on the hot side the data preparation does NOT always provide such a utility:
    `cold_cover_fails_witness`.) -/
theorem ladder_with_cover_closes_cold (tol : Rat) (htol : 0 ≤ tol) (T H : List Rat) (pre post : List ULevel) (uc : ULevel)
    (limit m : Rat) (hm : uc.tt ≤ m) (hts : uc.ts ≤ uc.tt)
    (hstart : ∀ c ∈ candidates.cells' (T.zip H), c.1.2 ≠ c.2.2 → m ≤ c.2.1)
    (hlen : T.length = H.length) (hdesc : T.Pairwise (· > ·)) (hmono : H.Pairwise (· ≤ ·))
    (hlastv : H.getLast? = some limit) (hhead : ∃ z, H.head? = some z ∧ z < limit) (h0 : 0 ≤ limit) :
    limit - tol ≤ (assignLoop tol T H false limit 0 (pre ++ uc :: post)).sum ∧
    (assignLoop tol T H false limit 0 (pre ++ uc :: post)).sum ≤ limit := by
  have hM := le_last_of_asc hmono hlastv
  have := assignLoop_closes htol T false uc hM
    (fun _ => maximise_covering_from htol (sub_nonneg.mpr hm) (sub_nonneg.mpr hts)
      (fun c hc hne => sub_nonneg.mpr (hstart c hc hne.symm)) hlen hdesc hM hlastv (exists_ne_of_end_lt (Or.inl rfl) hhead))
    pre post h0
  rwa [zero_add] at this

/-- Non-vacuity: a hot stream supplied at 300 above the hottest cold target (205): the heating profile is flat
    from 300 to 205; steam at 203.5 … 203.4 on the table scale does not reach it, the default utility at
    205 … 205.1 does, whatever the order. -/
example : assignLoop Gen.tol [300, 205, 150, 100] [324, 324, 100, 0] true 324 0 [⟨2035 / 10, 2034 / 10⟩, ⟨2051 / 10, 205⟩] = [100, 224] ∧
    assignLoop Gen.tol [300, 205, 150, 100] [324, 324, 100, 0] true 324 0 [⟨2051 / 10, 205⟩, ⟨2035 / 10, 2034 / 10⟩] = [324, 0] := by
  constructor <;> decide +kernel

/-- **… and likewise on the cooling side**: non-decreasing profile (read downwards) ending at
    `limit = Qc`, last utility at least as cold as every row in supply and target level. -/
theorem covering_ladder_closes_cold (tol : Rat) (htol : 0 ≤ tol) (T H : List Rat) (pre : List ULevel) (uc : ULevel) (limit : Rat)
    (hcov : ∀ t ∈ T, uc.tt ≤ t ∧ -tol ≤ t - uc.ts)
    (hlen : T.length = H.length) (hmono : H.Pairwise (· ≤ ·)) (hlastv : H.getLast? = some limit)
    (hhead : ∃ z, H.head? = some z ∧ z < limit) (h0 : 0 ≤ limit) :
    limit - tol ≤ (assignLoop tol T H false limit 0 (pre ++ [uc])).sum ∧
    (assignLoop tol T H false limit 0 (pre ++ [uc])).sum ≤ limit := by
  have hM := le_last_of_asc hmono hlastv
  have := assignLoop_closes htol T false uc hM
    (fun _ => maximise_covering htol (fun t ht => ⟨sub_nonneg.mpr (hcov t ht).1, (hcov t ht).2⟩)
      hlen hM hlastv (exists_ne_of_end_lt (Or.inl rfl) hhead))
    pre [] h0
  rwa [zero_add] at this

/-- the hypotheses are met by the example ladder below (the 260-level covers the segment) -/
example : (assignLoop Gen.tol [200, 150, 100] [900, 400, 0] true 900 0 ([⟨160, 1599/10⟩] ++ [⟨260, 2599/10⟩])).sum = 900 := by
  decide +kernel

/-- **A covering hot utility always exists after the data preparation.**  For any cold streams, any
    supplied utilities (isothermal, gliding, of any type, with or without target / contribution) and
    any `DT_CONT`, `DT_PHASE_CHANGE ≥ 0`: the prepared list contains an active hot utility whose whole
    SHIFTED band — `min(t_supply, t_target) − dt_cont` is its lower end — lies at or above the shifted
    target of every cold stream.  (This is the hypothesis `hcov` of `covering_ladder_closes_hot`.) -/
theorem hot_cover_exists (dtc dpc : Rat) (hdpc : 0 ≤ dpc) (hotT coldT : List Rat) (us : List (UIn × Bool)) :
    ∃ u ∈ prepareUtilities dtc dpc hotT coldT us, u.hot = true ∧ u.active = true ∧
      ∀ x ∈ coldT, x ≤ min u.ts u.tt - u.dt := by
  unfold prepareUtilities
  simp only
  by_cases h : (us.map fun p => completeOne dtc dpc p.2 p.1).any (suppressesHU (huTmin coldT)) = true
  · obtain ⟨u, hu, hs⟩ := List.any_eq_true.mp h
    unfold suppressesHU at hs
    simp only [Bool.and_eq_true, decide_eq_true_eq] at hs
    refine ⟨u, ?_, hs.1.1, hs.1.2, fun x hx => le_trans (huTmin_ge coldT x hx) hs.2⟩
    exact List.mem_append_left _ (List.mem_append_left _ hu)
  · refine ⟨defaultUtility true (huTmin coldT) dtc dpc, ?_, rfl, rfl, ?_⟩
    · rw [if_neg h]
      exact List.mem_append_left _ (List.mem_append_right _ List.mem_cons_self)
    · intro x hx
      simp only [defaultUtility, if_true, mul_one]
      rw [min_eq_right (add_le_add_right (le_add_of_nonneg_right hdpc) _), add_sub_cancel_right]
      exact huTmin_ge coldT x hx

/-- **The mirror statement fails on the cold side** (kernel-decided): cooling water at 32 °C with a
    contribution of 10 K and one hot stream cooled to a shifted 35 °C — the preparation keeps the
    cooling water (shifted band 42 … 42.1), adds NO default cold utility, and no cold utility of the
    prepared list lies at or below the hot stream's shifted target. -/
theorem cold_cover_fails_witness :
    prepareUtilities 5 (1 / 10) [35] [] [(⟨false, true, true, 32, some 32, some 10⟩, false)]
      = [⟨false, true, true, 32, 321 / 10, 10⟩, ⟨true, false, true, -1000000000 + (5 + 1 / 10), -1000000000 + 5, 5⟩] ∧
    ¬ (32 : Rat) + 10 ≤ 35 := by
  constructor <;> decide +kernel

theorem tol_nonneg : 0 ≤ Gen.tol := by decide +kernel

/-- Non-vacuity / concrete ladder: heating profile `[900, 400, 0]` at `T = [200, 150, 100]`, an
    isothermal-like level at 160 (reaches only the lower interval) and one at 260: the cheaper
    level takes 400, the hotter one the remaining 500. -/
example : assignUtility Gen.tol [200, 150, 100] [900, 400, 0] [⟨260, 2599/10⟩, ⟨160, 1599/10⟩] 2 true
    = .ok [500, 400] := by decide +kernel

end OP.C03

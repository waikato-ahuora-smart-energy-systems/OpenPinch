/-
  C15 — Area, exchanger-count and capital-cost targets follow their definitions.

  The costing formulas (`Model/Costing.lean`) are the same syntax the driver runs with IEEE doubles
  against `OpenPinch/utils/costing.py`; here they are read over the reals.  Proved:
    * `crf_annuities_sum_to_one`: for every rate i > 0 and life n ≥ 1 (years) the capital-recovery
      factor times the discounted annuities Σ_{k=1..n} (1+i)^{-k} is exactly 1;
    * `capital_cost_formula`: the cost is N(a + b(A/N)^c) (real power);
    * `capital_cost_mono`, `annual_cost_mono`: both are non-decreasing in the area (strictly
      increasing when b, c > 0) for positive area, unit count, rate and life;
    * `area_term_pos`, `area_pos`: every interval contributes Q·R/ΔT_lm > 0 and so the area target
      is positive; `area_term_bounds`: with the proved log-mean bounds of C20 the contribution lies
      between Q·R/ΔT_max… and Q·R/ΔT_min.
  That the implementation's area target IS that sum over the right intervals (balanced curves,
  enthalpy intervals, duty-weighted resistances) is decided by the oracle, which recomputes it
  independently from the zone's streams and utility duties.
-/
import OPModel.Proofs.CostingLemmas

namespace OP.C15
open OP OP.HX OP.Costing Real

/-- **The capital-recovery factor annualises exactly**: its discounted annuities sum to one. -/
theorem crf_annuities_sum_to_one (i : ℝ) (hi : 0 < i) (n : ℕ) (hn : 1 ≤ n) :
    crf realOps i (n : ℝ) * ∑ k ∈ Finset.range n, (1 / (1 + i) ^ (k + 1)) = 1 := by
  have h1 : 0 < 1 + i := one_add_pos_real hi.le
  rw [crf_natCast i h1, mul_comm, mul_div_assoc', annuity_sum i h1.ne',
    div_self (sub_pos_real (one_lt_growth hi hn)).ne']

/-- The cost law as the property states it: `N (a + b (A/N)^c)`. -/
theorem capital_cost_formula (A N a b c : ℝ) (hA : 0 < A) (hN : 0 < N) :
    capitalCost realOps A N a b c = N * (a + b * (A / N) ^ c) := by
  show N * a + N * b * powPos realOps (A / N) c = _
  rw [powPos_real _ _ (div_pos_real hA hN), mul_add, mul_assoc]

/-- **Capital cost does not decrease with area** (strictly increases when `b, c > 0`). -/
theorem capital_cost_mono (A A' N a b c : ℝ) (hA : 0 < A) (hAA : A ≤ A') (hN : 0 < N) (hb : 0 ≤ b) (hc : 0 ≤ c) :
    capitalCost realOps A N a b c ≤ capitalCost realOps A' N a b c := by
  rw [capital_cost_formula A N a b c hA hN, capital_cost_formula A' N a b c (lt_of_lt_of_le hA hAA) hN]
  have h1 : (A / N) ^ c ≤ (A' / N) ^ c :=
    Real.rpow_le_rpow (div_pos_real hA hN).le (div_le_div_of_nonneg_right hAA hN.le) hc
  exact mul_le_mul_of_nonneg_left (add_le_add_right (mul_le_mul_of_nonneg_left h1 hb) a) hN.le

theorem capital_cost_strict_mono (A A' N a b c : ℝ) (hA : 0 < A) (hAA : A < A') (hN : 0 < N) (hb : 0 < b) (hc : 0 < c) :
    capitalCost realOps A N a b c < capitalCost realOps A' N a b c := by
  rw [capital_cost_formula A N a b c hA hN, capital_cost_formula A' N a b c (lt_trans hA hAA) hN]
  have h1 : (A / N) ^ c < (A' / N) ^ c :=
    Real.rpow_lt_rpow (div_pos_real hA hN).le (div_lt_div_of_pos_right hAA hN) hc
  exact mul_lt_mul_of_pos_left (add_lt_add_right (mul_lt_mul_of_pos_left h1 hb) a) hN

/-- **The annualised cost does not decrease with area.** -/
theorem annual_cost_mono (A A' N a b c i : ℝ) (n : ℕ) (hA : 0 < A) (hAA : A ≤ A') (hN : 0 < N) (hb : 0 ≤ b) (hc : 0 ≤ c)
    (hi : 0 < i) (hn : 1 ≤ n) :
    annualCost realOps (capitalCost realOps A N a b c) i n ≤ annualCost realOps (capitalCost realOps A' N a b c) i n := by
  unfold annualCost
  exact mul_le_mul_of_nonneg_right (capital_cost_mono A A' N a b c hA hAA hN hb hc) (crf_pos hi hn).le

/-- **Every enthalpy interval adds a positive area.** -/
theorem area_term_pos (Q R L : ℝ) (hQ : 0 < Q) (hR : 0 < R) (hL : 0 < L) : 0 < areaTerm realOps Q R L := by
  rw [areaTerm_real]
  exact div_pos_real (mul_pos_real hQ hR) hL

/-- **The area target — the sum over the intervals — is positive** (at least one interval). -/
theorem area_pos (terms : List (ℝ × ℝ × ℝ)) (hne : terms ≠ [])
    (h : ∀ t ∈ terms, 0 < t.1 ∧ 0 < t.2.1 ∧ 0 < t.2.2) :
    0 < (terms.map fun t => areaTerm realOps t.1 t.2.1 t.2.2).sum := by
  apply List.sum_pos
  · exact List.forall_mem_map.mpr fun t ht => area_term_pos t.1 t.2.1 t.2.2 (h t ht).1 (h t ht).2.1 (h t ht).2.2
  · exact fun hm => hne (List.map_eq_nil_iff.mp hm)

/-- With the log-mean between the smaller driving force and the arithmetic mean (the bounds of C20.lmtd_bounds),
    an interval's area lies between `Q R / mean` and `Q R / ΔT_min`. -/
theorem area_term_bounds (Q R a b : ℝ) (hQ : 0 < Q) (hR : 0 < R) (ha : 0 < a) (hb : 0 < b) (hab : b < a) :
    Q * R / ((a + b) / 2) ≤ areaTerm realOps Q R (lmtd realOps a b) ∧
    areaTerm realOps Q R (lmtd realOps a b) ≤ Q * R / b := by
  have h1 := lmtd_ge_min hb hab
  have hQR := (mul_pos_real hQ hR).le
  rw [areaTerm_real]
  exact ⟨div_le_div_of_nonneg_left hQR (hb.trans_le h1) (lmtd_le_mean hb hab),
    div_le_div_of_nonneg_left hQR hb h1⟩

end OP.C15

/-
  C06 — Reported pinch temperatures are where the cascade is pinched.
  Theorems about `OP.pinchIdx` (model of `ProblemTable.pinch_idx`, tied to the code by
  harness/opv/props/c06.py).  `Z tol h i` reads "row `i` of the residual column `h`
  exists and is zero within `tol`".
-/
import OPModel.Proofs.Pinch
import OPModel.Proofs.CascadeClosed
import OPModel.Gen.Constants

namespace OP.C06
open OP

/-- When the residual column has a zero row and a non-zero row, a pinch is reported
    (`valid`), both pinch rows are zero rows, the hot row is not below the cold row, and the
    threshold clauses hold: if the top row is zero the hot pinch is the last row of the leading
    zero run (the row after it is non-zero); if the bottom row is zero the cold pinch is the first
    row of the trailing zero run. Otherwise they are the first / last zero of the column. -/
theorem pinch_rows_spec (tol : Rat) (h : List Rat)
    (hz : ∃ i, Z tol h i) (hnz : ∃ i, i < h.length ∧ ¬ Z tol h i) :
    ∃ a b : Nat, (pinchIdx tol h).rowH = (a : Int) ∧ (pinchIdx tol h).rowC = (b : Int) ∧
      (pinchIdx tol h).valid = true ∧ a ≤ b ∧ b < h.length ∧ Z tol h a ∧ Z tol h b ∧
      ((¬ Z tol h 0 ∧ ∀ j, j < a → ¬ Z tol h j) ∨
       (Z tol h 0 ∧ (∀ j, j ≤ a → Z tol h j) ∧ a + 1 < h.length ∧ ¬ Z tol h (a + 1))) ∧
      ((¬ Z tol h (h.length - 1) ∧ ∀ j, b < j → ¬ Z tol h j) ∨
       (Z tol h (h.length - 1) ∧ (∀ j, b ≤ j → j < h.length → Z tol h j) ∧ 1 ≤ b ∧ ¬ Z tol h (b - 1))) := by
  obtain ⟨a, ha, hza, hhot⟩ := hotRow_spec hz hnz
  obtain ⟨b, hb, hzb, hcold⟩ := coldRow_spec hz hnz
  have hbl : b < h.length := at_lt hzb
  -- were `b < a`, `b` would be a zero row above the first one, or `a` one below the last one, or the
  -- non-zero row `a + 1` that ends the leading run would lie in the trailing run
  have hab : a ≤ b := Nat.le_of_not_lt fun hlt => by
    rcases hhot with ⟨_, h1⟩ | ⟨_, _, h2, h3⟩
    · exact h1 b hlt hzb
    · rcases hcold with ⟨_, c1⟩ | ⟨_, c1, _, _⟩
      · exact c1 a hlt hza
      · exact h3 (c1 (a + 1) (Nat.le_succ_of_le (Nat.le_of_lt hlt)) h2)
  rw [pinchIdx_of_mixed hz hnz]
  exact ⟨a, b, ha, hb, decide_eq_true (by rw [ha, hb]; exact Int.ofNat_le.mpr hab), hab, hbl, hza, hzb, hhot, hcold⟩

/-- Every other zero of the residual that is not part of a zero run touching an end of the
    temperature range lies between the two pinch rows. -/
theorem zeros_between_pinches (tol : Rat) (h : List Rat)
    (hz : ∃ i, Z tol h i) (hnz : ∃ i, i < h.length ∧ ¬ Z tol h i)
    (z : Nat) (hzz : Z tol h z)
    (habove : ∃ j, j < z ∧ ¬ Z tol h j) (hbelow : ∃ j, z < j ∧ j < h.length ∧ ¬ Z tol h j) :
    (pinchIdx tol h).rowH ≤ (z : Int) ∧ (z : Int) ≤ (pinchIdx tol h).rowC := by
  obtain ⟨a, b, ha, hb, _, _, _, _, _, hhot, hcold⟩ := pinch_rows_spec tol h hz hnz
  obtain ⟨ja, hja, hnja⟩ := habove
  obtain ⟨jb, hjb, hjbl, hnjb⟩ := hbelow
  rw [ha, hb]
  refine ⟨Int.ofNat_le.mpr (Nat.le_of_not_lt fun hlt => ?_), Int.ofNat_le.mpr (Nat.le_of_not_lt fun hlt => ?_)⟩
  · -- `z < a`: `z` is a zero row above the first one, or the non-zero row `ja` lies in the leading run
    rcases hhot with ⟨_, h1⟩ | ⟨_, h1, _, _⟩
    · exact h1 z hlt hzz
    · exact hnja (h1 ja (Nat.le_of_lt (Nat.lt_trans hja hlt)))
  · rcases hcold with ⟨_, c1⟩ | ⟨_, c1, _, _⟩
    · exact c1 z hlt hzz
    · exact hnjb (c1 jb (Nat.le_of_lt (Nat.lt_trans hlt hjb)) hjbl)

/-- The hot pinch is not colder than the cold pinch: on a strictly descending temperature
    column the temperature read at the hot row is ≥ the one at the cold row. -/
theorem hot_not_colder_than_cold (tol : Rat) (T h : List Rat) (hlen : T.length = h.length)
    (hdesc : T.Pairwise (· > ·))
    (hz : ∃ i, Z tol h i) (hnz : ∃ i, i < h.length ∧ ¬ Z tol h i) :
    ∃ th tc, pinchTemperatures tol T h = .ok (some (th, tc)) ∧ tc ≤ th := by
  obtain ⟨a, b, ha, hb, hv, hab, hbl, _⟩ := pinch_rows_spec tol h hz hnz
  have hbl' : b < T.length := hlen ▸ hbl
  exact ⟨_, _, pinchTemperatures_eq ha hb hv (Nat.lt_of_le_of_lt hab hbl') hbl', getElem_le_of_desc hdesc hbl' hab⟩

/-- A pinch is reported absent exactly when the column has no zero row or consists of zero rows
    only (for a table of at least two rows). -/
theorem absent_iff (tol : Rat) (h : List Rat) (hn : 2 ≤ h.length) :
    (pinchIdx tol h).valid = false ↔ ((¬ ∃ i, Z tol h i) ∨ (∀ i, i < h.length → Z tol h i)) := by
  constructor
  · intro hv
    by_contra hc
    push Not at hc
    obtain ⟨hz, i, hi, hni⟩ := hc
    obtain ⟨_, _, _, _, hvalid, _⟩ := pinch_rows_spec tol h hz ⟨i, hi, hni⟩
    rw [hvalid] at hv; cases hv
  · intro hc
    rw [pinchIdx_of_not_mixed hc, decide_eq_false_iff_not]
    omega

/-- heat content of a stream set below and above a temperature add up to its duty -/
theorem below_add_above (ss : List Seg) (t : Rat) (h : ∀ s ∈ ss, s.lo ≤ s.hi) :
    belowAll ss t + aboveAll ss t = total ss := belowAll_add_aboveAll ss t h

/-- **The reported pinch temperatures are where the exact cascade is pinched.**  On any compatible
    grid, for any streams: run the cascade (`problemTable`), read the pinch from its residual
    column as the code does (`pinchTemperatures` over `H_net`).  Then both reported temperatures
    are rows of the grid, the hot one is not colder than the cold one, no temperature at all has a
    larger net heat deficit above it than `Qh`, and the deficit above each reported temperature is
    within `tol` of that maximum - i.e. the residual heat flow through it is (numerically) zero. -/
theorem pinch_is_where_cascade_is_pinched (tol w : Rat) (htol : 0 < tol) (hw : 0 ≤ w) (htw : tol ≤ w)
    (hot cold : List Seg) (t0 : Rat) (rest : List Rat)
    (hr : InRange (cold ++ hot) ((t0 :: rest).getLast (List.cons_ne_nil _ _)) t0)
    (hch : ChainOK w (cold ++ hot) t0 rest)
    (pt : PT) (tg : Targets) (hpt : problemTable tol w (t0 :: rest) hot cold = .ok pt) (htg : pt.targets = .ok tg)
    (hnz : ∃ i, i < pt.hNet.length ∧ ¬ Z tol pt.hNet i)
    (th tc : Rat) (hp : pinchTemperatures tol (t0 :: rest) pt.hNet = .ok (some (th, tc))) :
    th ∈ t0 :: rest ∧ tc ∈ t0 :: rest ∧ tc ≤ th ∧
    (∀ x : Rat, deficit hot cold x ≤ tg.qh) ∧
    tg.qh - tol < deficit hot cold th ∧ tg.qh - tol < deficit hot cold tc := by
  obtain ⟨pt', q, hpt', hc, ht⟩ := cascade_spec hw htw hr hch
  rw [hpt] at hpt'; cases hpt'
  rw [htg] at ht; cases ht
  have hlen : (t0 :: rest).length = pt.hNet.length := by rw [hc.hNet, List.length_map]
  have zi : ∀ k (hk : k < (t0 :: rest).length),
      Z tol pt.hNet k ↔ |q - deficit hot cold (t0 :: rest)[k]| < tol := fun k hk => by
    rw [hc.hNet]; exact Z_map_iff tol _ hk
  -- the row where the maximum is attained is a zero row
  have hz : ∃ i, Z tol pt.hNet i := by
    obtain ⟨x, hx, e⟩ := hc.att
    obtain ⟨i, hi, rfl⟩ := List.getElem_of_mem hx
    exact ⟨i, (zi i hi).mpr (by rw [e, sub_self, abs_zero]; exact htol)⟩
  obtain ⟨a, b, ha, hb, hv, hab, hbl, hza, hzb, _⟩ := pinch_rows_spec tol pt.hNet hz hnz
  have hbl' : b < (t0 :: rest).length := hlen ▸ hbl
  have hal : a < (t0 :: rest).length := lt_of_le_of_lt hab hbl'
  rw [pinchTemperatures_eq ha hb hv hal hbl'] at hp
  cases hp
  have zero_row : ∀ k (hk : k < (t0 :: rest).length), Z tol pt.hNet k → q - tol < deficit hot cold (t0 :: rest)[k] :=
    fun k hk h => sub_lt_of_abs_sub_lt_right ((zi k hk).mp h)
  exact ⟨List.getElem_mem hal, List.getElem_mem hbl', getElem_le_of_desc (hch.pairwise hw) hbl' hab,
    deficit_le_of_grid w hw hot cold t0 rest hr hch q hc.le, zero_row a hal hza, zero_row b hbl' hzb⟩

/-- **No pinch is missed.**  In the same setting: every grid temperature at which the net heat
    deficit attains its maximum `Qh` exactly (a true pinch of the exact cascade), and which has a
    non-pinched row somewhere above it and somewhere below it, lies between the two reported pinch
    temperatures. -/
theorem exact_pinches_lie_between (tol w : Rat) (htol : 0 < tol) (hw : 0 ≤ w) (htw : tol ≤ w)
    (hot cold : List Seg) (t0 : Rat) (rest : List Rat)
    (hr : InRange (cold ++ hot) ((t0 :: rest).getLast (List.cons_ne_nil _ _)) t0)
    (hch : ChainOK w (cold ++ hot) t0 rest)
    (pt : PT) (tg : Targets) (hpt : problemTable tol w (t0 :: rest) hot cold = .ok pt) (htg : pt.targets = .ok tg)
    (th tc : Rat) (hp : pinchTemperatures tol (t0 :: rest) pt.hNet = .ok (some (th, tc)))
    (z : Nat) (hz : z < (t0 :: rest).length) (hpinched : deficit hot cold (t0 :: rest)[z] = tg.qh)
    (habove : ∃ j, j < z ∧ ¬ Z tol pt.hNet j) (hbelow : ∃ j, z < j ∧ j < pt.hNet.length ∧ ¬ Z tol pt.hNet j) :
    tc ≤ (t0 :: rest)[z] ∧ (t0 :: rest)[z] ≤ th := by
  obtain ⟨pt', q, hpt', hc, ht⟩ := cascade_spec hw htw hr hch
  rw [hpt] at hpt'; cases hpt'
  rw [htg] at ht; cases ht
  have hlen : (t0 :: rest).length = pt.hNet.length := by rw [hc.hNet, List.length_map]
  -- the deficit attains `Qh` at row `z`, so the residual there is exactly zero
  have hzz : Z tol pt.hNet z := by
    rw [hc.hNet]
    exact (Z_map_iff tol _ hz).mpr (by rw [hpinched, sub_self, abs_zero]; exact htol)
  have hnz : ∃ i, i < pt.hNet.length ∧ ¬ Z tol pt.hNet i := by
    obtain ⟨j, hj, hn⟩ := habove
    exact ⟨j, hlen ▸ Nat.lt_trans hj hz, hn⟩
  obtain ⟨a, b, ha, hb, hv, hab, hbl, _⟩ := pinch_rows_spec tol pt.hNet ⟨z, hzz⟩ hnz
  obtain ⟨h1, h2⟩ := zeros_between_pinches tol pt.hNet ⟨z, hzz⟩ hnz z hzz habove hbelow
  have haz : a ≤ z := Int.ofNat_le.mp (ha ▸ h1)
  have hzb : z ≤ b := Int.ofNat_le.mp (hb ▸ h2)
  have hbl' : b < (t0 :: rest).length := hlen ▸ hbl
  rw [pinchTemperatures_eq ha hb hv (lt_of_le_of_lt hab hbl') hbl'] at hp
  cases hp
  have hdesc := hch.pairwise hw
  exact ⟨getElem_le_of_desc hdesc hbl' hzb, getElem_le_of_desc hdesc hz haz⟩

/-- The full statement "absent only when the residual has no zero" is FALSE of the code: an
    all-zero residual (perfectly balanced problem) is reported absent although every row is
    pinched. Recorded as known finding `C06-all-zero` (a pinned test requires this behaviour). -/
theorem pinch_allzero_witness :
    (pinchIdx Gen.tol [0, 0, 0]).valid = false ∧ Z Gen.tol [0, 0, 0] 1 := by
  constructor
  · decide +kernel
  · exact ⟨0, rfl, by decide +kernel⟩

/-- Non-vacuity of the hypotheses of `pinch_rows_spec` and a concrete threshold column. -/
example : (pinchIdx Gen.tol [0, 0, 5, 0, 3, 0, 0]) = ⟨1, 5, true⟩ := by decide +kernel


/-- Non-vacuity of `pinch_is_where_cascade_is_pinched`: the two-stream problem of C01 on its grid
    is a threshold problem (Qh = 0): the pinch is reported at the top row 190. -/
example : (do
    let pt ← problemTable Gen.tol (Gen.activityFactor * Gen.tol) [190, 170, 110, 50] [⟨110, 190, 100, 100⟩] [⟨50, 170, 50, 50⟩]
    pinchTemperatures Gen.tol [190, 170, 110, 50] pt.hNet) = .ok (some (190, 190)) := by decide +kernel

/-- ... and an interior pinch: hot 170 -> 50 (6000 kW), cold 110 -> 190 (8000 kW): Qh = 5000 and the
    residual vanishes at the shifted temperature 110 only. -/
example : (do
    let pt ← problemTable Gen.tol (Gen.activityFactor * Gen.tol) [190, 170, 110, 50] [⟨50, 170, 50, 50⟩] [⟨110, 190, 100, 100⟩]
    pinchTemperatures Gen.tol [190, 170, 110, 50] pt.hNet) = .ok (some (110, 110)) := by decide +kernel

end OP.C06

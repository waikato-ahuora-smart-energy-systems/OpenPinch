/-
  C08 — Inserting temperature intervals never changes any curve.

  `insertTemps` is the model of `ProblemTable.insert_temperature_interval` (tied to the code
  cell by cell by harness/opv/props/c08.py, over sequences of calls).  `plAt P x` is the
  specification: the polyline through the points `P`, linearly interpolated between rows, end
  value outside the range, at an arbitrary temperature `x : ℚ`.
-/
import OPModel.Proofs.TableColumn
import OPModel.Proofs.TableBook
import OPModel.Proofs.GenLayout
import OPModel.Drive.C08

namespace OP.C08
open OP

/-- The generated column layout (live `ProblemTableLabel`, `INTERPOLATION_KEYS`,
    `HEAT_CAPACITY_PAIRS`) is sane: `T`, `ΔT`, the interpolated columns and the ΔH columns are
    pairwise different existing columns.  Breaks when a constant is changed inconsistently. -/
theorem genCfg_ok : CfgOK Drive.genCfg :=
  have h := genLayout_all.1
  ⟨h.1, h.2.1, h.2.2.1, h.2.2.2.1, h.2.2.2.2.1, h.2.2.2.2.2.1, h.2.2.2.2.2.2⟩

/-- **One call, one column, every temperature.**  For a table whose temperature column and
    interpolated column `c` are numeric with strictly descending temperatures, and *any* list of
    requested temperatures: the call succeeds, returns the number of rows added, the column stays
    numeric, and the polyline through the new rows equals the polyline through the old rows at
    every rational temperature. -/
theorem curves_preserved (cfg : TblCfg) (ok : CfgOK cfg) (tol : Rat) (htol : 0 ≤ tol)
    (rows : List Row) (vals : List Rat) (c : Nat) (hc : c ∈ cfg.interp) (p0 : Pt) (P : List Pt)
    (hP : rows.map (cellPt cfg c) = (p0 :: P).map somePt)
    (hd : (p0 :: P).Pairwise (fun a b => b.1 < a.1)) :
    ∃ out q0 Q, insertTemps cfg tol rows vals = .ok (out, out.length - rows.length) ∧
      out.map (cellPt cfg c) = (q0 :: Q).map somePt ∧ (q0 :: Q).Pairwise (fun a b => b.1 < a.1) ∧
      ∀ x, plAt (q0 :: Q) x = plAt (p0 :: P) x := by
  obtain ⟨out, e, q0, Q, ⟨hQ, hdQ⟩, hpl⟩ := (SameCurve.refl ⟨hP, hd⟩).insertTemps ok htol hc vals
  exact ⟨out, q0, Q, e, hQ, hdQ, hpl⟩

/-- **Any sequence of calls.**  By induction over the history: every call succeeds, the column
    stays numeric and strictly descending, and the polyline is the original one at every
    temperature after every call. -/
theorem curves_preserved_history (cfg : TblCfg) (ok : CfgOK cfg) (tol : Rat) (htol : 0 ≤ tol)
    (c : Nat) (hc : c ∈ cfg.interp) (reqs : List (List Rat)) :
    ∀ (rows : List Row) (p0 : Pt) (P : List Pt),
      rows.map (cellPt cfg c) = (p0 :: P).map somePt → (p0 :: P).Pairwise (fun a b => b.1 < a.1) →
      ∃ counts out q0 Q, insertMany cfg tol rows reqs = .ok (counts, out) ∧ counts.length = reqs.length ∧
        out.map (cellPt cfg c) = (q0 :: Q).map somePt ∧ (q0 :: Q).Pairwise (fun a b => b.1 < a.1) ∧
        ∀ x, plAt (q0 :: Q) x = plAt (p0 :: P) x := by
  intro rows p0 P hP hd
  obtain ⟨counts, out, e, hlen, q0, Q, ⟨hQ, hdQ⟩, hpl⟩ := (SameCurve.refl ⟨hP, hd⟩).insertMany ok htol hc reqs
  exact ⟨counts, out, q0, Q, e, hlen, hQ, hdQ, hpl⟩

/-- Unsorted or permuted requests give exactly the same table and count. -/
theorem order_irrelevant (cfg : TblCfg) (tol : Rat) (rows : List Row) {xs ys : List Rat} (h : xs.Perm ys) :
    insertTemps cfg tol rows xs = insertTemps cfg tol rows ys :=
  insertTemps_congr rows fun r0 rest t0 ts => rebuilt_eq_of_perm cfg tol r0 rest t0 ts h

/-- Re-inserting temperatures already present (within tolerance) adds nothing. -/
theorem reinsertion_noop (cfg : TblCfg) (tol : Rat) (rows : List Row) (Ts vals : List Rat)
    (ht : temps cfg rows = some Ts) (hd : strictlyDesc Ts = true) (hne : rows ≠ [])
    (h : ∀ v ∈ vals, ∃ t ∈ Ts, rabs (t - v) ≤ tol) :
    insertTemps cfg tol rows vals = .ok (rows, 0) := by
  have hlen := temps_length ht
  cases rows with
  | nil => exact absurd rfl hne
  | cons r0 rest =>
    cases Ts with
    | nil => cases hlen
    | cons t0 ts =>
      rw [insertTemps_eq tol vals ht hd,
        rebuilt_of_needInsert_nil cfg tol r0 rest t0 ts vals (needInsert_eq_nil tol _ vals h) (Nat.succ.inj hlen), Nat.sub_self]

/-- The generated (CP, ΔH) pairs are laid out as the bookkeeping needs: distinct existing ΔH columns,
    never a CP column, CP columns plain (not `T`, not `ΔT`, not interpolated). -/
theorem genPairs_ok : PairsOK Drive.genCfg :=
  have h := genLayout_all.2.1
  ⟨h.1, h.2.1, h.2.2.1, h.2.2.2.1, h.2.2.2.2⟩

/-- **Row bookkeeping survives an insertion at or below the top row**, whatever books the first row
    keeps (for insertions above the table see `bookkeeping_preserved`, which needs a zero first row).
    If the first row keeps its books (ΔT numeric, CPs numeric, every ΔH = ΔT·CP) and every later
    row's ΔT is the gap to the row above with ΔH = ΔT·CP, then the same holds for the table
    returned for ANY list of requested temperatures at or below the top: every new or adjusted row's
    interval width equals the gap to the row above and its enthalpy changes equal CP times it. -/
theorem bookkeeping_preserved_partial (cfg : TblCfg) (ok : CfgOK cfg) (pk : PairsOK cfg) (tol : Rat) (htol : 0 ≤ tol)
    (r0 : Row) (rest : List Row) (t0 d0 : Rat) (vals : List Rat)
    (hp : Plain cfg t0 r0) (hb : Book cfg d0 r0) (hl : LinkedFrom cfg t0 rest)
    (hnotop : ∀ v ∈ vals, ¬ t0 < v) (out : List Row) (n : Nat)
    (he : insertTemps cfg tol (r0 :: rest) vals = .ok (out, n)) :
    ∃ h tail, out = h :: tail ∧ Plain cfg t0 h ∧ Book cfg d0 h ∧ LinkedFrom cfg t0 tail := by
  obtain ⟨ts, hts⟩ := hl.temps
  obtain ⟨tops, mid, bots, -, htops, hbots, rfl⟩ := insertTemps_shape htol hp.temp hts he
  -- nothing is requested above the table: the top block is empty and `r0` stays (`topBlock … [] = ([], r0)` by
  -- computation), so `r0` is also the row the walk starts from
  obtain rfl : tops = [] := List.eq_nil_iff_forall_not_mem.mpr fun y hy => hnotop y (htops y hy).2 (htops y hy).1
  obtain ⟨tail, hw, htail⟩ := body_linked ok pk tol mid hts hb hl hb hbots
  exact ⟨r0, tail, hw, hp, hb, htail⟩

/-- **Row bookkeeping survives ANY insertion**, also above the table: if the first row is a zero row
    (ΔT numeric, heat capacities and enthalpy changes 0 — what the top row of a problem table is)
    and every later row is linked to the row above it (ΔT = gap, ΔH = CP·ΔT), then so is every row
    after the first of the table returned for any requested temperatures — above, inside, below, in
    any number — and the new first row keeps its books. -/
theorem bookkeeping_preserved (cfg : TblCfg) (ok : CfgOK cfg) (pk : PairsOK cfg) (tol : Rat) (htol : 0 ≤ tol)
    (r0 : Row) (rest : List Row) (t0 d0 : Rat) (vals : List Rat)
    (hz0 : ZRow cfg t0 d0 r0) (hl : LinkedFrom cfg t0 rest) (out : List Row) (n : Nat)
    (he : insertTemps cfg tol (r0 :: rest) vals = .ok (out, n)) :
    ∃ h tail, out = h :: tail ∧ (∃ t d, Plain cfg t h ∧ Book cfg d h) ∧ List.IsChain (LinkR cfg) out := by
  obtain ⟨h, tail, t, d, rfl, hz, hl'⟩ := insertTemps_zlinked ok pk htol (.cons hz0 hl) he
  exact ⟨h, tail, rfl, ⟨t, d, hz.plain, hz.book⟩, chain_of_linked cfg tail h t hz.plain.temp hl'⟩

/-- the hypotheses are satisfiable: a two-row table over columns (T, ΔT, CP, ΔH) -/
example : let cfg : TblCfg := { nCols := 4, tI := 0, dI := 1, interp := [], pairs := [(2, 3)] }
    Plain cfg 100 [some 100, some 0, some 0, some 0] ∧ Book cfg 0 [some 100, some 0, some 0, some 0] ∧
    LinkedFrom cfg 100 [[some 80, some 20, some 2, some 40]] := by
  refine ⟨⟨rfl, rfl, ?_⟩, ⟨rfl, ?_⟩, ⟨80, rfl, ⟨by decide +kernel, ?_⟩, rfl, trivial⟩⟩
  · exact List.forall_mem_singleton.mpr ⟨0, rfl⟩
  · exact List.forall_mem_singleton.mpr ⟨0, rfl, by decide +kernel⟩
  · exact List.forall_mem_singleton.mpr ⟨2, rfl, by decide +kernel⟩

/-- The tolerance of the code is non-negative (side condition of `curves_preserved`). -/
theorem tol_nonneg : 0 ≤ Gen.tol := by decide +kernel

/-- Non-vacuity: `T = [110, 90, 50]`, insert 79.1 — the pinned tree's off-centre case. -/
example :
    (insertTemps ⟨3, 0, 1, [2], []⟩ Gen.tol [[some 110, some 0, some 0], [some 90, some 20, some 200], [some 50, some 40, some 1000]] [791/10]).toOption.map
      (fun r => r.1.map (fun row => (row.get 0, row.get 1, row.get 2)))
    = some [(some 110, some 0, some 0), (some 90, some 20, some 200), (some (791/10), some (109/10), some 418),
            (some 50, some (291/10), some 1000)] := by decide +kernel

end OP.C08

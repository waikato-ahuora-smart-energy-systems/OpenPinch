/-
  C14 — The service is total and well-formed on every valid problem.

  Totality of ~5k lines of numpy / pydantic code is not something a model of this size can carry;
  what is proved here are the structural facts behind the failures the oracle found, regenerated
  from the live package on every run (AST walk + live objects, harness/opv/lean.py):
    * `config_reads_defined`: every upper-case attribute that any module of the package reads from
      a configuration object has a default in `Configuration` (or at module level of `lib/config`),
      except four turbine-model parameters read only by the unwired `power_cogeneration_analysis`;
      (the AttributeError for P_TURBINE_BOX, repaired by 27f6728, is exactly a violation of this);
    * `every_zone_type_has_a_handler`: every zone type other than the utility zone (rejected by input
      validation by design) has a target handler in `main._TARGET_HANDLERS`;
    * the cascade model is total on its domain (`C01.di_targets_exact`, restated as `cascade_total`).
  Everything else in the property — returns for all degenerate shapes and option subsets, schema /
  JSON / finite numbers, one record per zone, temperature envelope, repeatability — is decided by the
  oracle on the service itself.
-/
import OPModel.Properties.C01
import OPModel.Gen.Constants
import OPModel.Proofs.Pinch

namespace OP.C14
open OP

/-- parameters of the (unwired) turbine model of `power_cogeneration_analysis` -/
def unwiredTurbineModelParams : List String := ["COMBOBOX", "LOAD", "MECH_EFF", "MIN_EFF"]

/-- Every configuration attribute the package reads is defined with a default. -/
theorem config_reads_defined :
    ∀ a ∈ Gen.configAttrsRead, a ∈ Gen.configAttrsDefined ∨ a ∈ unwiredTurbineModelParams := by
  -- both tables are generated in sorted order, so the reads other than the turbine parameters form
  -- a sublist of the defaults: one comparison per default instead of one per pair
  have h : (Gen.configAttrsRead.filter (· ∉ unwiredTurbineModelParams)).Sublist Gen.configAttrsDefined := by
    decide +kernel
  intro a ha
  by_cases hu : a ∈ unwiredTurbineModelParams
  · exact Or.inr hu
  · exact Or.inl (h.subset (List.mem_filter.mpr ⟨ha, decide_eq_true hu⟩))

/-- Every analysable zone type has a target handler. -/
theorem every_zone_type_has_a_handler : ∀ z ∈ Gen.analysableZoneTypes, z ∈ Gen.targetHandlers := by decide +kernel

/-- The cascade model never fails on a compatible grid, whatever the streams (restating C01). -/
theorem cascade_total (hot cold : List Seg) (t0 : Rat) (rest : List Rat)
    (hr : InRange (cold ++ hot) ((t0 :: rest).getLast (List.cons_ne_nil _ _)) t0)
    (hch : ChainOK (Gen.activityFactor * Gen.tol) (cold ++ hot) t0 rest) :
    ∃ t, directTargets Gen.tol (Gen.activityFactor * Gen.tol) (t0 :: rest) hot cold = .ok t ∧ 0 ≤ t.qh := by
  obtain ⟨t, h, _, _, h0, _, _⟩ := C01.di_targets_exact Gen.tol (Gen.activityFactor * Gen.tol)
    C01.window_ok.1 C01.window_ok.2 hot cold t0 rest hr hch
  exact ⟨t, h, h0⟩

/-- only hot streams, no cold stream: still a result (a degenerate shape of the property) -/
example : directTargets Gen.tol (Gen.activityFactor * Gen.tol) [190, 110] [⟨110, 190, 100, 100⟩] [] = .ok ⟨0, 8000, 0⟩ := by
  decide +kernel

/-- **Every row of the temperature grid is (the 6-decimal rounding of) an input temperature**: the
    grid of `create_problem_table_with_t_int` invents no temperature. -/
theorem grid_rows_are_inputs (dp : Nat) (temps : List Rat) :
    ∀ t ∈ gridOf dp temps, ∃ x ∈ temps, t = roundDp dp x := by
  unfold gridOf
  induction temps with
  | nil => intro t h; simp at h
  | cons a as ih =>
    intro t h
    simp only [List.map_cons, List.foldr_cons] at h
    rcases mem_insertDesc h with h | h
    · exact ⟨a, by simp, h⟩
    · obtain ⟨x, hx, e⟩ := ih t h
      exact ⟨x, List.mem_cons_of_mem _ hx, e⟩

/-- **The reported pinch temperatures are rows of the grid**: whatever the column, `pinch_temperatures`
    returns two entries of the temperature column or nothing — hence temperatures inside any envelope
    `[lo, hi]` that contains the grid. -/
theorem pinch_temps_in_envelope (tol : Rat) (T h : List Rat) (lo hi a b : Rat)
    (hT : ∀ t ∈ T, lo ≤ t ∧ t ≤ hi) (hp : pinchTemperatures tol T h = .ok (some (a, b))) :
    (a ∈ T ∧ b ∈ T) ∧ lo ≤ a ∧ a ≤ hi ∧ lo ≤ b ∧ b ≤ hi := by
  unfold pinchTemperatures at hp
  dsimp only at hp
  split at hp
  · split at hp
    · rename_i x y hx hy
      cases hp
      have ha := pyIndex_mem hx
      have hb := pyIndex_mem hy
      exact ⟨⟨ha, hb⟩, (hT _ ha).1, (hT _ ha).2, (hT _ hb).1, (hT _ hb).2⟩
    · cases hp
  · cases hp

/-- Non-vacuity: the grid of four shifted bounds, one of them twice. -/
example : gridOf 6 [190, 110, 170, 50, 110] = [190, 170, 110, 50] := by decide +kernel

end OP.C14

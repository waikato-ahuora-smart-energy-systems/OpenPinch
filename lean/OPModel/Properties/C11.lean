/-
  C11 — Analysis is a pure function of its input.

  What can be a theorem here is small and is stated about facts regenerated from the live code on
  every run: `Gen.mutableDefaults` lists every function or method of the OpenPinch package whose
  default argument values are mutable objects (cells that persist between calls).
    * `mutable_defaults_known`: that list contains nothing beyond three read-only defaults (checked
      read-only at run time by the module-state snapshot of the harness);
    * `no_shared_state_writes`: `Gen.sharedStateWrites` — every statement inside a function of the package that
      assigns to an attribute of a class object (`Configuration.DT_CONT = …`), calls `setattr` on a class, or
      declares a `global` — is empty (seeded change C11-clamp-writes-class-attribute makes it non-empty);
    * `graph_default_not_mutable`: in particular not `get_output_graph_data`, the accumulator of the
      graph sets;
    * `history_independent`, `world_unchanged`: with that fact, in the model of the service's
      call-to-call state, the graph-set keys of every call in every history are those of a fresh
      call on the same problem, and the world is left as it was;
    * `mutable_default_leaks`: with a mutable default the same model violates the property
      (the defect repaired by fix commit d508d52), so the theorem above is not vacuous.
  Everything else the property says (input objects unchanged, earlier results unchanged, equality of
  complete results with a fresh interpreter) is decided by the oracle, which runs every history in
  a fresh interpreter.
-/
import OPModel.Model.Purity
import OPModel.Drive.C11
import OPModel.Proofs.Basic

namespace OP.C11
open OP

def readOnlyDefaults : List String :=
  ["OpenPinch.analysis.heat_pump_targeting._prepare_heat_pump_target_inputs",
   "OpenPinch.analysis.problem_table_analysis.create_problem_table_with_t_int",
   "OpenPinch.analysis.problem_table_analysis.get_process_heat_cascade"]

/-- No function of the library has a mutable default argument other than three that are only read. -/
theorem mutable_defaults_known : ∀ f ∈ Gen.mutableDefaults, f ∈ readOnlyDefaults := by
  apply forall_mem_of_toList
  simp only [Gen.mutableDefaults, readOnlyDefaults, List.map]
  repeat rw [String.toList_ofList]
  decide +kernel

/-- No function of the library writes to a class attribute or to a module-level name. -/
theorem no_shared_state_writes : Gen.sharedStateWrites = [] := by decide +kernel

theorem graph_default_not_mutable : Drive.graphDefaultMutable = false := by
  apply contains_eq_false_of_toList
  simp only [Gen.mutableDefaults, List.map]
  repeat rw [String.toList_ofList]
  decide +kernel

theorem serviceCall_pure (w : PyWorld) (k : List String) :
    serviceCall false w k = (w, mergeKeys [] k) := rfl

/-- **Every call in every history returns what a fresh call on the same problem returns.** -/
theorem history_independent (w : PyWorld) (hist : List (List String)) :
    runHistory Drive.graphDefaultMutable w hist
      = hist.map fun k => (serviceCall Drive.graphDefaultMutable {} k).2 := by
  rw [graph_default_not_mutable]
  induction hist generalizing w with
  | nil => rfl
  | cons k rest ih => simp only [runHistory, serviceCall_pure, List.map_cons, ih]

/-- **No call changes the state carried between calls.** -/
theorem world_unchanged (w : PyWorld) (hist : List (List String)) :
    finalWorld Drive.graphDefaultMutable w hist = w := by
  rw [graph_default_not_mutable]
  induction hist generalizing w with
  | nil => rfl
  | cons k rest ih => simp only [finalWorld, serviceCall_pure, ih]

/-- With a mutable default the second call also returns the first problem's graph sets. -/
theorem mutable_default_leaks :
    runHistory true {} [["A/Direct Integration"], ["B/Direct Integration"]]
      ≠ [["A/Direct Integration"], ["B/Direct Integration"]] := by decide +kernel

end OP.C11

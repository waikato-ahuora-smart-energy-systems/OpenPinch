/-
  C16 — All input channels describe the same problem identically.

  Proved here (models tied to the code by harness/opv/props/c16.py): exported sheet names are
  pairwise distinct, at most 31 characters and free of the characters Excel forbids, for EVERY
  list of labels for which allocation succeeds (the code raises after 998 collisions of one
  31-character prefix — explicit error branch); and for every load/target history the wrapper's
  `target` returns the result of the problem loaded last (cache cleared by `load`, fix 3088761).
  Channel equality itself (dict / model / value-with-unit / JSON / CSV / workbook readers are
  pandas and pydantic code) is decided by relational testing, not by a theorem.
-/
import OPModel.Proofs.SheetLemmas
import OPModel.Proofs.Basic

namespace OP.C16
open OP OP.Sheet

/-- **Every list of labels**: the allocated names are pairwise distinct, distinct from those
    already used, at most 31 characters, and contain none of `: / ? * \ [ ]`. -/
theorem sheet_names_unique : ∀ (labels : List Str) (used names : List Str),
    allocate labels used = .ok names →
      names.Nodup ∧ (∀ n ∈ names, n ∉ used ∧ n.length ≤ 31 ∧ Clean n) ∧ names.length = labels.length := by
  intro labels
  induction labels with
  | nil => intro used names h; cases h; simp
  | cons l ls ih =>
    intro used names h
    rw [allocate] at h
    obtain ⟨⟨n, used'⟩, hu, h⟩ := Except.bind_ok h
    obtain ⟨rest, hr, h⟩ := Except.bind_ok h
    cases h
    obtain ⟨a, rfl, c, d⟩ := uniqueName_spec hu
    obtain ⟨e, f, g⟩ := ih _ rest hr
    refine ⟨List.nodup_cons.mpr ⟨fun hn => (f n hn).1 List.mem_cons_self, e⟩, ?_, by simp [g]⟩
    intro m hm
    rcases List.mem_cons.mp hm with rfl | hm
    · exact ⟨a, c, d⟩
    · obtain ⟨x, y, z⟩ := f m hm
      exact ⟨fun hmu => x (List.mem_cons_of_mem _ hmu), y, z⟩

/-- **Any history**: after any sequence of `load`/`target` calls from any sources, `target` returns
    the result of the problem loaded last, analysed under the project name of THAT source (the file
    stem for a path, the default for a model or a CSV pair) — a function of the last `load` alone,
    whatever was loaded or targeted before; nothing when none is loaded. -/
theorem target_returns_last_loaded (ops : List WOp) :
    (wstep (wrun {} ops) .target).2 = lastLoad ops :=
  target_run {} ops

/-- History independence in the form the property states it: whatever happened before, loading a
    problem and then targeting any number of times gives what a fresh wrapper gives for that load. -/
theorem target_as_fresh (pre post : List WOp) (i : Nat) (src : Src) (hpost : ∀ op ∈ post, op = .target) :
    (wstep (wrun {} (pre ++ .load i src :: post)) .target).2 = (wstep (wrun {} [.load i src]) .target).2 := by
  rw [target_returns_last_loaded, target_returns_last_loaded]
  unfold lastLoad
  rw [List.foldl_append, List.foldl_cons, foldl_targets post hpost]
  rfl

/-- Repeated targeting returns the cached result and leaves the wrapper unchanged. -/
theorem repeat_target_cached (w : Wrapper) (r : Res) (h : w.cached = some r) :
    wstep w .target = (w, some r) := by
  unfold wstep; rw [h]

/-- The code before the project-name `fix:` commit violates the statement: after a file, a model
    loaded into the same wrapper was analysed under the file's project name (kernel-decided). -/
theorem legacy_project_name_leaks :
    (wstepLegacy (wrunLegacy {} [.load 0 (.file 7), .target, .load 1 .model]) .target).2 = some (1, some 7) ∧
    (wstep (wrun {} [.load 0 (.file 7), .target, .load 1 .model]) .target).2 = some (1, none) := by
  decide +kernel

/-- Non-vacuity: three labels sharing a 31-character prefix with a forbidden character. -/
example : allocate ["Zone A/Direct Integration (Shifted) 1".toList, "Zone A/Direct Integration (Shifted) 2".toList,
    "Zone A/Direct Integration (Shifted) 3".toList] [] =
    .ok ["Zone A_Direct Integration (Shif".toList, "Zone A_Direct Integration ( (2)".toList,
         "Zone A_Direct Integration ( (3)".toList] := by
  -- The kernel reads a literal as `String.ofList [..]`, which `toList_ofList` strips; evaluating `toList` on it
  -- would decode UTF-8 byte by byte.
  iterate 6 rw [String.toList_ofList]
  exact Except.eq_ok_of_toOption (by decide +kernel)

end OP.C16

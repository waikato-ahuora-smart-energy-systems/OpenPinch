/-
  C07 — Pocket-free GCC is the greatest monotone curve under the GCC.

  `gccWithoutPockets` is the code-shaped model of `get_GCC_without_pockets` (explicit row
  indices, exit-index search, flatten range, `i += n_added·sgn`, Python loop bound as fuel),
  tied to the code on T / H_net / H_net_np by harness/opv/props/c07.py; `loadProfiles` models
  `get_seperated_gcc_heat_load_profiles`.

  Proved here, for all curves: the sweep never alters the grand composite curve itself (nor any
  other interpolated column) as a function of temperature, and the load profiles decompose the
  curve exactly.  That `H_net_np` *is* the running minimum is NOT a theorem about this code-shaped
  model; it is decided by the exact-Fraction oracle on the implementation plus the
  correspondence (see MANIFEST level note).
-/
import OPModel.Proofs.PocketCurve
import OPModel.Proofs.Profiles
import OPModel.Proofs.PocketExit
import OPModel.Proofs.GenLayout

namespace OP.C07
open OP

/-- **The GCC is unchanged.**  For every table whose temperature column and column `c`
    (any interpolated column other than `H_net_np`, in particular `H_net`) are numeric and
    strictly descending, whatever pockets the curve has: if pocket removal returns, column `c`
    of the result is numeric, strictly descending, and is the same polyline at every rational
    temperature — however many closing temperatures were inserted. -/
theorem gcc_unchanged (cfg : TblCfg) (ok : CfgOK cfg) (tol : Rat) (htol : 0 ≤ tol)
    (cH cNP c : Nat) (hc : c ∈ cfg.interp) (h1 : cNP ≠ c) (h2 : cNP ≠ cfg.tI)
    (rows : List Row) (p0 : Pt) (P : List Pt) (h : CurveInv cfg c rows p0 P)
    (out : List Row) (he : gccWithoutPockets cfg tol cH cNP rows = .ok out) :
    SameCurve cfg c out p0 P := by
  unfold gccWithoutPockets at he
  -- the initial copy H_np := H_net leaves column c alone
  have h0 : SameCurve cfg c (rows.map fun r => r.put cNP (r.get cH)) p0 P := by
    refine (SameCurve.refl h).congr ?_
    rw [List.map_map]
    exact List.map_congr_left fun r _ => cellPt_put h1 h2 r _
  obtain ⟨hs, _, he⟩ := Except.bind_ok he
  cases hv : (pinchIdx tol hs).valid with
  | true =>
    simp only [hv, Bool.not_true, Bool.false_eq_true, if_false] at he
    obtain ⟨s1, e1, he⟩ := Except.bind_ok he
    obtain ⟨s2, e2, he⟩ := Except.bind_ok he
    cases he
    exact ((h0.flatten h1 h2 _ _ _).removePocketsSide ok htol hc h1 h2 e1).removePocketsSide ok htol hc h1 h2 e2
  | false =>
    simp only [hv, Bool.not_false, if_true] at he
    cases he
    exact h0

/-- The generated layout puts `H_net` among the interpolated columns and keeps `H_net_np`
    distinct from `H_net` and `T` (side conditions of `gcc_unchanged` for the code's columns). -/
theorem gen_columns_ok :
    Gen.columns.idxOf Gen.col_H_NET ∈ Drive.genCfg.interp ∧
    Gen.columns.idxOf Gen.col_H_NET_NP ≠ Gen.columns.idxOf Gen.col_H_NET ∧
    Gen.columns.idxOf Gen.col_H_NET_NP ≠ Drive.genCfg.tI :=
  genLayout_all.2.2

/-- **The load profiles are monotone.**  For any curve, the net cooling profile (`H_hot_net`)
    is non-increasing from 0 downwards through the table, and the net heating profile
    (`H_cold_net`) is non-increasing towards its last entry. -/
theorem profiles_monotone (tol : Rat) (H : List Rat) :
    (loadProfiles tol H).1.Pairwise (· ≥ ·) ∧ (loadProfiles tol H).2.Pairwise (· ≥ ·) := by
  unfold loadProfiles
  constructor
  · -- hot: negated cumulative sum of non-negative increments
    refine List.pairwise_map.mpr ((cumsumFrom_mono _ (List.forall_mem_map.mpr fun d _ => ?_) 0).imp Rat.neg_le_neg)
    split_ifs with hd
    · exact neg_nonneg.mpr hd
    · exact le_rfl
  · -- cold: cumulative sum of non-positive increments, shifted
    refine List.pairwise_map.mpr ((cumsumFrom_anti _ (List.forall_mem_map.mpr fun d _ => ?_) 0).imp
      fun h => Rat.add_le_add_right.mpr h)
    split_ifs with hd
    · exact le_rfl
    · exact neg_nonpos.mpr (le_of_not_ge hd)

/-- The cooling profile starts at zero and the heating profile ends at zero. -/
theorem profiles_ends (tol : Rat) (H : List Rat) :
    (loadProfiles tol H).1.head? = some 0 ∧ (loadProfiles tol H).2.getLast? = some 0 := by
  unfold loadProfiles
  constructor
  · show some (-(0 + if (0 : Rat) ≤ 0 then -0 else 0)) = some 0
    rw [if_pos le_rfl, neg_zero, add_zero, neg_zero]
  · rw [List.getLast?_map]
    cases h : (cumsum ((0 :: deltaVals tol H).map fun x => if x ≤ 0 then 0 else -x)).getLast? with
    | none => exact absurd (List.getLast?_eq_none_iff.mp h) (List.cons_ne_nil _ _)
    | some v => exact congrArg some (add_neg_cancel v)

/-- Non-vacuity and a concrete curve with a pocket above the pinch (columns T, ΔT, H_net, H_net_np):
    `T = [300,250,200,150,100]`, `H = [500,600,550,0,100]` — the pinned test's curve; the pocket
    closes at 195.4545… and is flattened to 500. -/
example :
    (gccWithoutPockets ⟨4, 0, 1, [2, 3], []⟩ Gen.tol 2 3
      [[some 300, none, some 500, none], [some 250, none, some 600, none], [some 200, none, some 550, none],
       [some 150, none, some 0, none], [some 100, none, some 100, none]]).toOption.map
      (fun out => out.map fun r => (r.get 0, r.get 3))
    = some [(some 300, some 500), (some 250, some 500), (some 200, some 500), (some (2150/11), some 500),
            (some 150, some 0), (some 100, some 100)] := by decide +kernel

/-- **The running minimum of a column is non-increasing, lies under the column, and starts where the
    column starts.** -/
theorem runMin_under_and_monotone (h : Rat) (t : List Rat) :
    (runMin (h :: t)).head? = some h ∧ List.Forall₂ (· ≤ ·) (runMin (h :: t)) (h :: t) ∧
    (runMin (h :: t)).Pairwise (· ≥ ·) := by
  obtain ⟨h1, h2, h3⟩ := runMinFrom_spec h t
  simp only [runMin]
  exact ⟨rfl, List.Forall₂.cons (le_refl h) h1, List.Pairwise.cons (fun x hx => h2 x hx) h3⟩

/-- **… and it is the greatest such column**: every non-increasing column that lies under the GCC
    row by row lies under the running minimum.  (`npSpec` is built from these running minima read
    towards the pinch; the driver checks on every tolerance-clean case that the code-shaped
    `gccWithoutPockets` returns exactly `npSpec` of its own rows.) -/
theorem runMin_greatest (l g : List Rat) (hg : List.Forall₂ (· ≤ ·) g l) (hmono : g.Pairwise (· ≥ ·)) :
    List.Forall₂ (· ≤ ·) g (runMin l) := by
  cases hg with
  | nil => exact List.Forall₂.nil
  | cons hah hrest =>
    rename_i a h g' t
    simp only [runMin]
    refine List.Forall₂.cons hah (runMinFrom_greatest h hrest (List.pairwise_cons.mp hmono).2 ?_)
    intro x hx
    exact le_trans ((List.pairwise_cons.mp hmono).1 x hx) hah

/-- **The exit search is exact and runs to the pinch row inclusive.**  `_pocket_exit_index` started at
    row `i0` (opening value `h0`) with `n` rows to the pinch returns either the row just before the
    FIRST row `k' ∈ 1..n` steps away (the pinch row is step `n`) whose value has dropped to `h0 - tol`
    or below, every row passed over staying above `h0 - tol`; or, when no row up to and including the
    pinch row drops, the pinch row itself.  (Seeded change C07-exit-search-skips-pinch-row shortens the
    range by one: this statement is then false of the code.) -/
theorem exit_search_spec (tol : Rat) (rows : List Row) (cH : Nat) (i0 pinch : Int) (above : Bool) (h0 : Rat) (e : Int)
    (hh : cellAt rows cH i0 = .ok h0) (h : pocketExit tol rows cH i0 pinch above = .ok e) :
    let n := (if above then pinch - i0 else i0 - pinch).toNat
    (∃ k', 1 ≤ k' ∧ k' ≤ n ∧ e = stepRow above i0 k' - (if above then 1 else -1) ∧
        (∃ hj, cellAt rows cH (stepRow above i0 k') = .ok hj ∧ hj + tol ≤ h0) ∧
        ∀ m, 1 ≤ m → m < k' → ∃ hj, cellAt rows cH (stepRow above i0 m) = .ok hj ∧ h0 < hj + tol) ∨
    (e = pinch ∧ ∀ m, 1 ≤ m → m ≤ n → ∃ hj, cellAt rows cH (stepRow above i0 m) = .ok hj ∧ h0 < hj + tol) := by
  intro n
  unfold pocketExit at h
  simp only [hh, bind, Except.bind] at h
  rcases pocketExit_go_spec h with ⟨k', h1, h2, he, hd, hb⟩ | ⟨he, hall⟩
  · exact Or.inl ⟨k', h1, Nat.lt_one_add_iff.mp h2, he, hd, hb⟩
  · exact Or.inr ⟨he, fun m h1 h2 => hall m h1 (Nat.lt_one_add_iff.mpr h2)⟩

/-- **The breakpoint is exactly where the pocket closes.**  The temperature `closeInsert` inserts —
    `linear_interpolation(H[i₀], H[e], H[e±1], T[e], T[e±1])` — is the point of the GCC segment between
    rows `e` and `e ± 1` at which the curve takes the pocket's opening value `h0` again, and it lies
    between the two rows whenever `h0` lies between their enthalpies (which is how `_pocket_exit_index`
    chooses `e`). -/
theorem closing_temperature_is_where_pocket_closes (h0 he he1 te te1 t0 : Rat) (hT : te ≠ te1)
    (h : linearInterpolation h0 he he1 te te1 = .ok t0) :
    he + (he1 - he) * (t0 - te) / (te1 - te) = h0 ∧
    (he1 ≤ h0 → h0 ≤ he → (min te te1 ≤ t0 ∧ t0 ≤ max te te1)) := by
  obtain ⟨hx, e⟩ := linearInterpolation_eq h
  have hd : he - he1 ≠ 0 := sub_ne_zero.mpr hx
  have hdT : te1 - te ≠ 0 := sub_ne_zero.mpr (Ne.symm hT)
  -- t0 = te + lam (te1 − te) with lam = (he − h0)/(he − he1), which is in [0, 1] when h0 is between he1 and he
  generalize hl : (he - h0) / (he - he1) = lam at e
  constructor
  · have hlam : (he - he1) * lam = he - h0 := by rw [← hl]; exact mul_div_cancel₀ _ hd
    have : (t0 - te) / (te1 - te) = lam := by rw [e, add_sub_cancel_left]; exact mul_div_cancel_right₀ _ hdT
    rw [mul_div_assoc, this, ← neg_sub he he1, neg_mul, hlam, neg_sub]
    exact add_sub_cancel he h0
  · intro h1 h2
    have hpos : 0 ≤ he - he1 := sub_nonneg.mpr (h1.trans h2)
    rw [e, ← hl]
    exact convex_between te te1 _ (div_nonneg (sub_nonneg.mpr h2) hpos)
      (div_le_one_of_le₀ (sub_le_sub_left h1 he) hpos)

/-- the specification on a curve with a pocket on each side of the pinch -/
example : npSpec (1 / 1000000) [400, 600, 200, 400, 100, 0, 300, 100, 500] = [400, 400, 200, 200, 100, 0, 100, 100, 500] := by
  decide +kernel

end OP.C07

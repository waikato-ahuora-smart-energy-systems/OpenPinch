/-
  C18 — Solved heat-pump cycles obey the first and second laws.

  The thermodynamic states come from CoolProp (not modelled; the second-law and saturation-pressure
  clauses are decided by the oracle against CoolProp itself).  Proved here, for ALL state
  enthalpies and duties, about the model of the cycle's bookkeeping (`_get_metrics`,
  `build_stream_collection`; tied to the code on the metrics and on every stream duty):
    * `first_law`: condenser duty = evaporator duty + work;
    * `work_pos`: positive work whenever compression raises the enthalpy (h1 > h0) and the
      throttled fluid is not above the evaporator outlet (h3 ≤ h0);
    * `cop_relation`: COP_h = COP_r + 1 under the same conditions;
    * `streams_carry_duty`: the streams built from a monotone enthalpy profile carry exactly the
      duty of their exchanger, all non-negative;
    * `stream_sets_order_independent`: building is a function of (profile, duty) only — no state —
      so any order or repetition of requests gives the same sets;
    * `legacy_order_dependent`: the bookkeeping before fix 275087a violates this (kernel-decided
      witness: the evaporator set requested before the condenser set is 1000 times the one
      requested after it).
-/
import OPModel.Proofs.HeatPumpLemmas
import Mathlib.Algebra.BigOperators.Ring.List

namespace OP.C18
open OP OP.HP

/-- **First law** on the reported duties. -/
theorem first_law (c : Cycle) (Q : Rat) : Q = QEvap c Q + work c Q := by
  unfold work; ring

/-- **Positive work.** -/
theorem work_pos (c : Cycle) (Q : Rat) (hQ : 0 < Q) (h30 : c.h3 ≤ c.h0) (h01 : c.h0 < c.h1) : 0 < work c Q := by
  have hq : 0 < qCond c := qCond_pos c (h30.trans_lt h01)
  rw [work_eq c Q h30 hq.ne']
  exact div_pos (mul_pos hQ (wNet_pos c h01)) hq

/-- **COP_h = COP_r + 1.** -/
theorem cop_relation (c : Cycle) (h30 : c.h3 ≤ c.h0) (h01 : c.h0 < c.h1) : copH c = copR c + 1 := by
  rw [copH, copR, qCond_eq c h30, add_div, div_self (wNet_pos c h01).ne']

/-- **The streams of a (falling) enthalpy profile carry exactly the exchanger's duty**, none negative.
    (A rising profile is the same statement read backwards.) -/
theorem streams_carry_duty (profile : List Rat) (duty a z : Rat) (hd : 0 ≤ duty)
    (hp : profile.Pairwise (· ≥ ·)) (ha : profile.head? = some a) (hz : profile.getLast? = some z) (haz : z < a) :
    (streamDuties profile duty).sum = duty ∧ ∀ q ∈ streamDuties profile duty, 0 ≤ q := by
  have hpos : 0 < a - z := sub_pos.mpr haz
  have e : streamDuties profile duty = (steps profile).map fun d => duty / (a - z) * d := by
    unfold streamDuties
    rw [ha, hz]
    simp only
    rw [rabs_of_nonneg hpos.le]
  rw [e]
  constructor
  · rw [List.sum_map_mul_left, List.map_id', steps_sum_desc profile hp a z ha hz, div_mul_cancel₀ _ hpos.ne']
  · exact List.forall_mem_map.mpr fun d hdm => mul_nonneg (div_nonneg hd hpos.le) (steps_nonneg profile d hdm)

/-- **Order independence**: a stream set is a function of its profile and duty alone; requesting
    other sets before, or the same set again, cannot change it. -/
theorem stream_sets_order_independent (cond evap : List Rat) (Qc Qe : Rat) :
    let condThenEvap := (streamDuties cond Qc, streamDuties evap Qe)
    let evapThenCond := (fun e c => (c, e)) (streamDuties evap Qe) (streamDuties cond Qc)
    condThenEvap = evapThenCond := rfl

/-- The bookkeeping before the fix: evaporator streams requested first are 1000 times those
    requested after the condenser streams (profile enthalpies in J/kg, cycle solved for 100 kW). -/
theorem legacy_order_dependent :
    let c : Cycle := ⟨400000, 450000, 250000, 250000⟩
    let st0 : Legacy := ⟨mDot c 100⟩
    let evapFirst := (legacyEvap st0 [250000, 400000]).2
    let afterCond := (legacyEvap (legacyCond st0 100 [450000, 250000]).1 [250000, 400000]).2
    evapFirst = [75000] ∧ afterCond = [75] := by decide +kernel

/-! ### non-vacuity -/
example : streamDuties [450000, 420000, 260000, 250000] 100 = [15, 80, 5] := by decide +kernel
example : work ⟨400000, 450000, 250000, 250000⟩ 100 = 25 ∧ copH ⟨400000, 450000, 250000, 250000⟩ = 4 := by decide +kernel

end OP.C18

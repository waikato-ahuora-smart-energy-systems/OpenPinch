/-
  C20 — Effectiveness-NTU and LMTD relations are mutually consistent.

  The formulas are those of `OPModel/Model/HX.lean` (one syntax, instantiated with `Float` for the
  driver — compared with the code to 1e-9 — and with ℝ here).  Dispatch: the arrangement label is
  normalised once (fix 3266977); the generated table `Gen.hxDispatch` records, for every
  arrangement × label form, which relation the live functions actually evaluate.
-/
import OPModel.Proofs.HXReal
import OPModel.Gen.Constants

namespace OP.C20
open OP OP.HX Real

/-- **Dispatch is total and consistent**: for each of the 8 arrangements and both label forms
    (enumeration member, its text) the live `HX_Eff` and `HX_NTU` evaluate the relation of that
    arrangement (table regenerated from /repo on every run by probing the functions). -/
theorem dispatch_total_and_consistent :
    Gen.hxDispatch.length = 16 ∧ ∀ e ∈ Gen.hxDispatch, e.2.2.1 = e.1 ∧ e.2.2.2 = e.1 := by
  decide +kernel

/-- **Multi-pass conversion and its inverse.**  `MultiPassNTU(MultiPassEff(e, c, P), c, P) = e` for every pass
    count `P ≥ 1`: for balanced streams (`c = 1`, any `e ≥ 0`) and for unbalanced streams wherever the
    single-pass ratio `(1 − e c)/(1 − e)` is positive and the multi-pass expression is defined.  (Seeded change
    C20-multipass-ntu-balanced-sign flips a sign in the balanced branch of the inverse.) -/
theorem multipass_roundtrip (e c : ℝ) (P : ℕ) (hP : 1 ≤ P) :
    (0 ≤ e → mpNTU (mpEff e 1 P) 1 P = e) ∧
    (c ≠ 1 → e < 1 → e * c < 1 → ((1 - e * c) / (1 - e)) ^ P ≠ c → mpNTU (mpEff e c P) c P = e) :=
  ⟨fun he => mp_roundtrip_balanced he hP, fun hc he1 hec hr => mp_roundtrip hc he1 hec hP hr⟩

/-- **NTU → ε → NTU** for every arrangement with a closed-form inverse, on its whole domain. -/
theorem roundtrip_closed_forms (N c : ℝ) (hN : 0 < N) :
    (0 ≤ c → c < 1 → ntuCF realOps (effCF realOps N c) c = N) ∧
    ntuCF1 realOps (effCF1 realOps N) = N ∧
    (0 ≤ c → ntuPF realOps (effPF realOps N c) c = N) ∧
    ntuCond realOps (effCond realOps N) = N ∧
    (0 < c → ntuCmax realOps (effCmax realOps N c) c = N) ∧
    (0 < c → ntuCmin realOps (effCmin realOps N c) c = N) :=
  ⟨fun _ h1 => roundtrip_cf hN h1, roundtrip_cf1 (one_add_pos_real hN.le).ne',
   fun h0 => roundtrip_pf N (one_add_pos_real h0).ne',
   roundtrip_cond N, fun h => roundtrip_cmax N h.ne', fun h => roundtrip_cmin N h.ne'⟩

/-- Effectiveness in (0,1) and non-decreasing in NTU (condenser/evaporator; counter flow in (0,1)). -/
theorem eff_range_and_mono (N M c : ℝ) (hN : 0 < N) (hNM : N ≤ M) (hc0 : 0 ≤ c) (hc1 : c < 1) :
    (0 < effCond realOps N ∧ effCond realOps N < 1) ∧ effCond realOps N ≤ effCond realOps M ∧
    (0 < effCF realOps N c ∧ effCF realOps N c < 1) :=
  ⟨effCond_range hN, effCond_mono hNM, effCF_range hN hc1⟩

/-- At zero capacity ratio the relations reduce to `1 - exp(-NTU)`. -/
theorem eff_at_c0 (N : ℝ) : effCF realOps N 0 = 1 - exp (-N) ∧ effPF realOps N 0 = 1 - exp (-N) := by
  rw [effCF_real, effPF_real]
  constructor <;> simp

/-- **LMTD lies between the smaller end difference and the arithmetic mean, and is symmetric.** -/
theorem lmtd_bounds (a b : ℝ) (ha : 0 < a) (hb : 0 < b) (hab : b < a) :
    b ≤ lmtd realOps a b ∧ lmtd realOps a b ≤ (a + b) / 2 ∧ lmtd realOps a b = lmtd realOps b a :=
  ⟨lmtd_ge_min hb hab, lmtd_le_mean hb hab, lmtd_symm a b⟩

/-- The equal branch returns the common value. -/
theorem lmtd_equal (a : ℝ) : lmtdEq realOps a a = a :=
  add_self_div_two a

end OP.C20

/-
  C10 — Zone-tree construction conserves the streams.

  `buildZones` (Model/Zones.lean) is the model of the tree synthesised from stream labels
  (`_validate_zone_tree_structure` without a user tree, after the two fix: commits), and `content`
  of the placement of the streams plus the upward collection
  (`_get_process_streams_in_each_subzone`, `import_hot_and_cold_streams_from_sub_zones`); both are
  tied to the code by harness/opv/props/c10.py on the zone given to every stream, the set of tree
  nodes and the streams held by every zone.

  Proved here for EVERY list of labels (any depth, labels that are prefixes or suffixes of one
  another, labels equal to generated unit-operation names, repeated labels, the empty path):
  construction never fails; every stream gets a leaf of its own directly below the zone its label
  names; and after collection a zone holds a stream exactly once if it lies on the path from the
  root to that leaf and not at all otherwise — so nothing is dropped, duplicated, or shared
  between zones that are not ancestors of one another.
  With a user tree (`rewriteAll`, the model of `_rewrite_stream_zones_from_tree` after fix 3f9e38c,
  tied to the code on 200+ tree cases per run): rewriting is total, every stream whose label names a
  node ends in a zone without sub-zones (its own node, or a zone generated for it when the node is
  the root or has sub-zones), and conservation holds for it exactly as above.
  Not modelled: splitting and stripping the label text, the `(zone, name)` sort (done by the harness
  with the same key), utility copies — decided by the oracle on the implementation.
-/
import OPModel.Proofs.ZoneLemmas
import OPModel.Proofs.ZoneTreeLemmas

namespace OP.C10
open OP

/-- **Construction is total**: the unit-operation renaming loop always finds a free name. -/
theorem build_total (labels : List ZPath) : ∃ st, buildZones labels = .ok st := by
  obtain ⟨st, _, h, _⟩ := buildZones_spec labels
  exact ⟨st, h⟩

/-- **Every stream gets its own leaf below the zone its label names**, and no two streams share one. -/
theorem own_leaf (labels : List ZPath) (st : ZBuild) (h : buildZones labels = .ok st) :
    st.zones.length = labels.length ∧ st.zones.Nodup ∧
    ∀ j (hj : j < labels.length), ∃ name, st.zones[j]? = some (labels[j] ++ [name]) := by
  obtain ⟨names, hinv, hlen, hz⟩ := buildZones_inv h
  refine ⟨by rw [hz, List.length_zipWith, hlen, Nat.min_self], hinv.nodup, fun j hj => ?_⟩
  have hj' : j < names.length := hlen.symm ▸ hj
  exact ⟨names[j], by rw [hz, List.getElem?_zipWith, List.getElem?_eq_getElem hj, List.getElem?_eq_getElem hj']⟩

/-- **Conservation.**  After the streams are placed and every zone with sub-zones has collected its
    streams from them, stream `i` occurs in zone `z` exactly once when `z` is the root, the zone of
    its label, an ancestor of that zone, or its own leaf — and does not occur in any other zone. -/
theorem conservation (labels : List ZPath) (st : ZBuild) (h : buildZones labels = .ok st)
    (i : Nat) (hi : i < st.zones.length) (fuel : Nat) (z : ZPath)
    (hfuel : ∀ q ∈ st.paths, q.length < z.length + fuel) :
    (content st.paths st.zones fuel z).count i = if z <+: st.zones[i] then 1 else 0 := by
  obtain ⟨_, hinv, -, -⟩ := buildZones_inv h
  have hL := prefClosed_prePass labels
  have hz := List.getElem_mem hi
  exact content_count (binv_paths_nodup (nodup_prePass labels) hinv) (binv_closed hL hinv)
    (List.getElem?_eq_getElem hi) (hinv.paths_eq ▸ List.mem_append_right _ hz) (binv_leaf hL hinv hz) fuel z hfuel

/-- The root holds every stream exactly once. -/
theorem root_holds_all_once (labels : List ZPath) (st : ZBuild) (h : buildZones labels = .ok st)
    (i : Nat) (hi : i < st.zones.length) (fuel : Nat) (hfuel : ∀ q ∈ st.paths, q.length < fuel) :
    (content st.paths st.zones fuel []).count i = 1 :=
  (conservation labels st h i hi fuel []
    fun q hq => by rw [List.length_nil, Nat.zero_add]; exact hfuel q hq).trans (if_pos List.nil_prefix)

/-- Zones that hold a common stream are ancestors of one another: nothing is shared between siblings. -/
theorem shared_only_along_a_path (labels : List ZPath) (st : ZBuild) (h : buildZones labels = .ok st)
    (i : Nat) (hi : i < st.zones.length) (fuel : Nat) (z1 z2 : ZPath)
    (hf1 : ∀ q ∈ st.paths, q.length < z1.length + fuel) (hf2 : ∀ q ∈ st.paths, q.length < z2.length + fuel)
    (h1 : i ∈ content st.paths st.zones fuel z1) (h2 : i ∈ content st.paths st.zones fuel z2) :
    z1 <+: z2 ∨ z2 <+: z1 := by
  -- a zone that holds the stream lies above the stream's leaf, and two prefixes of one path are comparable
  have above (z : ZPath) (hf : ∀ q ∈ st.paths, q.length < z.length + fuel)
      (hm : i ∈ content st.paths st.zones fuel z) : z <+: st.zones[i] := by
    by_contra hn
    exact List.count_eq_zero.mp ((conservation labels st h i hi fuel z hf).trans (if_neg hn)) hm
  exact List.prefix_or_prefix_of_prefix (above z1 hf1 h1) (above z2 hf2 h2)

/-- a well-formed input tree: distinct node paths, closed under non-empty prefixes, none empty -/
def TreeOK (paths : List ZPath) : Prop := paths.Nodup ∧ PrefClosed paths ∧ ∀ p ∈ paths, p ≠ []

theorem treeOK_inv (paths : List ZPath) (h : TreeOK paths) : TInv { paths := paths } :=
  ⟨h.1, h.2.1, h.2.2, fun _ hz => absurd hz List.not_mem_nil⟩

/-- **Rewriting the labels against a user tree is total**: the child-naming loop always finds a free
    name (labels that name no node are left alone — they are not an error of this step). -/
theorem tree_rewrite_total (root : String) (paths : List ZPath) (h : TreeOK paths) (ss : List (ZPath × String)) :
    ∃ st, rewriteAll root ss { paths := paths } = .ok st ∧ st.zones.length = ss.length := by
  obtain ⟨st, h1, _, h3⟩ := rewriteAll_spec root ss (treeOK_inv paths h)
  exact ⟨st, h1, h3.trans (Nat.zero_add _)⟩

/-- **Every stream whose label names a node ends up in a zone without sub-zones** — its own node if
    that is a leaf, otherwise a zone generated for it below the node — so it cannot be lost when
    zones with sub-zones rebuild their collections. -/
theorem tree_streams_in_leaves (root : String) (paths : List ZPath) (h : TreeOK paths) (ss : List (ZPath × String))
    (st : TBuild) (he : rewriteAll root ss { paths := paths } = .ok st) :
    ∀ z, some z ∈ st.zones → z ∈ st.paths ∧ kidsOf st.paths z = [] ∧ 1 < z.length :=
  (rewriteAll_inv (treeOK_inv paths h) he).1.leaf

/-- **Conservation with a user tree**: after collection, a stream whose label named a node is held
    exactly once by every zone on the path from the root to its zone and by no other zone. -/
theorem tree_conservation (root : String) (paths : List ZPath) (h : TreeOK paths) (ss : List (ZPath × String))
    (st : TBuild) (he : rewriteAll root ss { paths := paths } = .ok st)
    (i : Nat) (hi : i < st.zones.length) (z : ZPath) (hz : st.zones[i] = some z)
    (fuel : Nat) (y : ZPath) (hfuel : ∀ q ∈ st.paths, q.length < y.length + fuel) :
    (content st.paths (st.zones.map fun o => o.getD []) fuel y).count i = if y <+: z then 1 else 0 := by
  have hinv := (rewriteAll_inv (treeOK_inv paths h) he).1
  obtain ⟨hmem, hleaf, -⟩ := hinv.leaf z (hz ▸ List.getElem_mem hi)
  exact content_count hinv.nodup hinv.closed
    (by rw [List.getElem?_map, List.getElem?_eq_getElem hi, hz]; rfl) hmem hleaf fuel y hfuel

/-- a stream labelled with a zone that has sub-zones gets a zone of its own below it (fix 3f9e38c) -/
example : (rewriteAll "Site" [(["Site", "A"], "S1"), (["A", "B"], "S2"), (["Site"], "S1")]
      { paths := [["Site"], ["Site", "A"], ["Site", "A", "B"]] }).toOption.map (·.zones)
    = some [some ["Site", "A", "S1"], some ["Site", "A", "B"], some ["Site", "S1"]] := by decide +kernel

example : TreeOK [["Site"], ["Site", "A"], ["Site", "A", "B"]] := by
  unfold TreeOK PrefClosed
  decide +kernel

/-! ### non-vacuity: the shapes that used to break -/

/-- labels `A/B` and `B` (one a suffix of the other), two streams each -/
example : (buildZones [["A", "B"], ["A", "B"], ["B"], ["B"]]).toOption.map (·.zones)
    = some [["A", "B", "O1"], ["A", "B", "O2"], ["B", "O1"], ["B", "O2"]] := by decide +kernel

/-- label `O1` next to label `O1/O1`: the generated leaf steps aside (`O2`) -/
example : (buildZones [["O1"], ["O1", "O1"]]).toOption.map (·.zones)
    = some [["O1", "O2"], ["O1", "O1", "O1"]] := by decide +kernel

example : content [["A"], ["A", "B"], ["B"], ["A", "B", "O1"], ["B", "O1"]] [["A", "B", "O1"], ["B", "O1"]] 5 ["B"] = [1] := by
  decide +kernel

end OP.C10

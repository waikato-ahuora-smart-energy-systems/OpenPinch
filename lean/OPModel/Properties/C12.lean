/-
  C12 — Results are invariant under equivalent descriptions of the problem.

  The theorems are about the *specification* of the energy targets that `C01.di_targets_exact`
  proves the cascade model computes on every compatible grid: `IsTargets hot cold t` says `t.qh` is
  the attained maximum over all temperatures of the net heat deficit, and `qc`, `qr` close the
  balance.  `IsTargets` determines `t` uniquely, so any two descriptions with the same
  specification get the same targets from the model (`model_agrees`).  Proved for stream lists of
  any length:
    * permutation of hot and of cold streams;
    * a stream split at an intermediate temperature, or into parallel branches of the same range;
    * translation of all temperatures (targets unchanged; the attaining temperature — the pinch —
      moves by the shift);
    * scaling of all duties by `k > 0` (targets scale by `k`);
    * mirroring of the temperature axis (hot and cold swap, `Qh ↔ Qc`, `Qr` unchanged).
  Zone renaming / reordering, utility duties, total-site records and graph data are not covered by
  these theorems: they are decided by the metamorphic oracle on the service.
-/
import OPModel.Proofs.Metamorphic
import OPModel.Properties.C01
import Mathlib.Tactic.Linarith

namespace OP.C12
open OP

/-- The cascade model returns targets meeting the specification (restating `C01.di_targets_exact`). -/
theorem model_meets_spec (tol w : Rat) (hw : 0 ≤ w) (htw : tol ≤ w) (hot cold : List Seg)
    (t0 : Rat) (rest : List Rat)
    (hr : InRange (cold ++ hot) ((t0 :: rest).getLast (List.cons_ne_nil _ _)) t0)
    (hch : ChainOK w (cold ++ hot) t0 rest) :
    ∃ t, directTargets tol w (t0 :: rest) hot cold = .ok t ∧ IsTargets hot cold t := by
  obtain ⟨t, h, hub, hatt, _, hqc, hqr⟩ := C01.di_targets_exact tol w hw htw hot cold t0 rest hr hch
  exact ⟨t, h, ⟨hub, hatt, hqc, hqr⟩⟩

/-- **Two descriptions with the same specification get the same targets from the model**, whatever
    (compatible) grids the two runs use. -/
theorem model_agrees (tol w : Rat) (hw : 0 ≤ w) (htw : tol ≤ w) (hot cold hot' cold' : List Seg)
    (t0 t0' : Rat) (rest rest' : List Rat)
    (hr : InRange (cold ++ hot) ((t0 :: rest).getLast (List.cons_ne_nil _ _)) t0)
    (hch : ChainOK w (cold ++ hot) t0 rest)
    (hr' : InRange (cold' ++ hot') ((t0' :: rest').getLast (List.cons_ne_nil _ _)) t0')
    (hch' : ChainOK w (cold' ++ hot') t0' rest')
    (hd : ∀ x, deficit hot' cold' x = deficit hot cold x) (hc : total cold' = total cold) (hh : total hot' = total hot) :
    directTargets tol w (t0' :: rest') hot' cold' = directTargets tol w (t0 :: rest) hot cold := by
  obtain ⟨t, h, hs⟩ := model_meets_spec tol w hw htw hot cold t0 rest hr hch
  obtain ⟨t', h', hs'⟩ := model_meets_spec tol w hw htw hot' cold' t0' rest' hr' hch'
  rw [h, h', (hs.congr hd hc hh).unique hs']

/-- **Permutation**: listing the streams in another order changes nothing. -/
theorem perm_invariant (hot cold hot' cold' : List Seg) (t : Targets)
    (hh : hot.Perm hot') (hc : cold.Perm cold') (h : IsTargets hot cold t) : IsTargets hot' cold' t :=
  h.congr (fun x => by unfold deficit; rw [aboveAll_perm hc.symm, aboveAll_perm hh.symm])
    (total_perm hc.symm) (total_perm hh.symm)

/-- **Serial split** of a cold stream at an intermediate temperature `m`. -/
theorem split_serial_cold (hot cold : List Seg) (lo m hi cp r : Rat) (h1 : lo ≤ m) (h2 : m ≤ hi) (t : Targets)
    (h : IsTargets hot (⟨lo, hi, cp, r⟩ :: cold) t) :
    IsTargets hot (⟨lo, m, cp, r⟩ :: ⟨m, hi, cp, r⟩ :: cold) t :=
  h.split_cold (above_split_serial lo m hi cp r h1 h2) (duty_split_serial lo m hi cp r)

/-- **Serial split** of a hot stream. -/
theorem split_serial_hot (hot cold : List Seg) (lo m hi cp r : Rat) (h1 : lo ≤ m) (h2 : m ≤ hi) (t : Targets)
    (h : IsTargets (⟨lo, hi, cp, r⟩ :: hot) cold t) :
    IsTargets (⟨lo, m, cp, r⟩ :: ⟨m, hi, cp, r⟩ :: hot) cold t :=
  h.split_hot (above_split_serial lo m hi cp r h1 h2) (duty_split_serial lo m hi cp r)

/-- **Parallel split** into two branches of the same range (either side). -/
theorem split_parallel_cold (hot cold : List Seg) (lo hi a b r : Rat) (t : Targets)
    (h : IsTargets hot (⟨lo, hi, a + b, r⟩ :: cold) t) :
    IsTargets hot (⟨lo, hi, a, r⟩ :: ⟨lo, hi, b, r⟩ :: cold) t :=
  h.split_cold (above_split_parallel lo hi a b r) (duty_split_parallel lo hi a b r)

theorem split_parallel_hot (hot cold : List Seg) (lo hi a b r : Rat) (t : Targets)
    (h : IsTargets (⟨lo, hi, a + b, r⟩ :: hot) cold t) :
    IsTargets (⟨lo, hi, a, r⟩ :: ⟨lo, hi, b, r⟩ :: hot) cold t :=
  h.split_hot (above_split_parallel lo hi a b r) (duty_split_parallel lo hi a b r)

/-- **Translation**: the targets are unchanged and every temperature at which the deficit attains
    them — every pinch — moves by the shift. -/
theorem translate_invariant (d : Rat) (hot cold : List Seg) (t : Targets) (h : IsTargets hot cold t) :
    IsTargets (hot.map (Seg.shift d)) (cold.map (Seg.shift d)) t ∧
    ∀ x, deficit hot cold x = t.qh → deficit (hot.map (Seg.shift d)) (cold.map (Seg.shift d)) (x + d) = t.qh := by
  have key := deficit_shift d hot cold
  refine ⟨⟨?_, ?_, ?_, ?_⟩, fun x hx => by rw [key]; exact hx⟩
  · intro x
    rw [← sub_add_cancel x d, key]; exact h.ub _
  · obtain ⟨x, hx⟩ := h.att
    exact ⟨x + d, by rw [key]; exact hx⟩
  · rw [total_map_eq _ (duty_shift d), total_map_eq _ (duty_shift d)]; exact h.qc
  · rw [total_map_eq _ (duty_shift d)]; exact h.qr

/-- **Scaling** all duties by `k ≥ 0` scales the three targets by `k`; the pinch stays. -/
theorem scale_linear (k : Rat) (hk : 0 ≤ k) (hot cold : List Seg) (t : Targets) (h : IsTargets hot cold t) :
    IsTargets (hot.map (Seg.scale k)) (cold.map (Seg.scale k)) ⟨k * t.qh, k * t.qc, k * t.qr⟩ := by
  have key := deficit_scale k hot cold
  refine ⟨?_, ?_, ?_, ?_⟩
  · intro x; rw [key]; exact mul_le_mul_of_nonneg_left (h.ub x) hk
  · obtain ⟨x, hx⟩ := h.att
    exact ⟨x, by rw [key, hx]⟩
  · simp only; rw [total_scale, total_scale, h.qc, mul_add, mul_sub]
  · simp only; rw [total_scale, h.qr, mul_sub]

/-- **Mirroring** the temperature axis: the mirrored cold streams act as hot streams and vice versa;
    `Qh` and `Qc` swap and `Qr` is unchanged. -/
theorem mirror_swaps (hot cold : List Seg) (hh : ∀ s ∈ hot, s.lo ≤ s.hi) (hc : ∀ s ∈ cold, s.lo ≤ s.hi)
    (t : Targets) (h : IsTargets hot cold t) :
    IsTargets (cold.map Seg.mirror) (hot.map Seg.mirror) ⟨t.qc, t.qh, t.qr⟩ := by
  have key := deficit_mirror hh hc
  refine ⟨?_, ?_, ?_, ?_⟩
  · intro x
    rw [← neg_neg x, key]
    simp only
    rw [h.qc]; linarith only [h.ub (-x)]
  · obtain ⟨x, hx⟩ := h.att
    refine ⟨-x, ?_⟩
    rw [key, hx]; simp only; rw [h.qc]; ring
  · simp only
    rw [total_map_eq _ duty_mirror, total_map_eq _ duty_mirror, h.qc]; ring
  · simp only
    rw [total_map_eq _ duty_mirror, h.qr, h.qc]; ring

/-! ### non-vacuity -/

/-- H 190→110 (CP 100) against C 50→170 (CP 50): Qh 0, Qc 2000, Qr 6000 meet the specification. -/
example : ∃ t, directTargets Gen.tol (Gen.activityFactor * Gen.tol) [190, 170, 110, 50]
    [⟨110, 190, 100, 100⟩] [⟨50, 170, 50, 50⟩] = .ok t ∧ t = ⟨0, 2000, 6000⟩ := ⟨_, by decide +kernel, rfl⟩

end OP.C12

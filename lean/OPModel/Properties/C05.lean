/-
  C05 — Composite curves and problem tables are faithful to the streams.

  Theorems about `problemTable` (model of `problem_table_algorithm`, either scale) and about the
  heat-recovery shift of `get_process_heat_cascade`; rows inserted afterwards keep every curve by
  C08 (`OP.C08.curves_preserved`).  The whole of `get_process_heat_cascade` (cascade + shift +
  constant-enthalpy projection + insertion) is the model `processHeatCascade`, tied to the code
  cell by cell by harness/opv/props/c05.py.
-/
import OPModel.Proofs.CascadeClosed
import OPModel.Model.Process

namespace OP.C05
open OP

theorem content_bot (ss : List Seg) (bot t : Rat) (h : ∀ s ∈ ss, bot ≤ s.lo) :
    content ss bot t = belowAll ss t :=
  congrArg List.sum (List.map_congr_left fun s hs => by unfold below ovl; rw [max_eq_left (h s hs)])

/-- **Composite curves are exact heat contents.**  At every row of the table built by the
    cascade (either scale), `H_hot` is the heat content of the hot streams below that
    temperature, `H_cold` the heat content of the cold streams below it plus the documented
    horizontal offset (`= Qc`, the bottom entry of the net curve), and `H_net = H_cold − H_hot`. -/
theorem curves_are_content (tol w : Rat) (hw : 0 ≤ w) (htw : tol ≤ w) (hot cold : List Seg)
    (t0 : Rat) (rest : List Rat)
    (hr : InRange (cold ++ hot) ((t0 :: rest).getLast (List.cons_ne_nil _ _)) t0)
    (hch : ChainOK w (cold ++ hot) t0 rest) :
    ∃ pt tg, problemTable tol w (t0 :: rest) hot cold = .ok pt ∧ pt.targets = .ok tg ∧
      pt.hHot = (t0 :: rest).map (fun t => belowAll hot t) ∧
      pt.hCold = (t0 :: rest).map (fun t => belowAll cold t + tg.qc) ∧
      pt.hNet = (t0 :: rest).map (fun t => belowAll cold t + tg.qc - belowAll hot t) ∧
      (∀ x ∈ pt.hNet, 0 ≤ x) ∧ (∃ x ∈ pt.hNet, x = 0) := by
  obtain ⟨pt, q, hpt, hc, ht⟩ := cascade_spec hw htw hr hch
  have bh : ∀ t, total hot - aboveAll hot t = belowAll hot t := fun t =>
    sub_eq_of_eq_add (belowAll_add_aboveAll hot t hr.right.lo_le_hi).symm
  have bc : ∀ t, total cold - aboveAll cold t = belowAll cold t := fun t =>
    sub_eq_of_eq_add (belowAll_add_aboveAll cold t hr.left.lo_le_hi).symm
  refine ⟨pt, _, hpt, ht, ?_, ?_, ?_, ?_, ?_⟩
  · rw [hc.hHot, hr.right.aboveAll_bot le_rfl]
    exact List.map_congr_left fun t _ => bh t
  · rw [hc.hCold, hr.left.aboveAll_bot le_rfl, hr.deficit_bot le_rfl]
    exact List.map_congr_left fun t _ => by rw [bc t, ← sub_add]
  · rw [hc.hNet]
    exact List.map_congr_left fun t _ => by unfold deficit; rw [← bc t, ← bh t]; ring
  · rw [hc.hNet]
    exact List.forall_mem_map.mpr fun t ht' => sub_nonneg.mpr (hc.le t ht')
  · obtain ⟨t, ht', e⟩ := hc.att
    exact ⟨_, hc.hNet ▸ List.mem_map.mpr ⟨t, ht', rfl⟩, by rw [e, sub_self]⟩

/-- **Each curve spans exactly the total duty of its streams.** -/
theorem span_eq_duty (ss : List Seg) (bot top : Rat) (h : InRange ss bot top) :
    belowAll ss top - belowAll ss bot = total ss := by
  -- nothing lies above the top row, everything above the bottom row
  have ht := belowAll_add_aboveAll ss top h.lo_le_hi
  have hb := belowAll_add_aboveAll ss bot h.lo_le_hi
  rw [h.aboveAll_top le_rfl, add_zero] at ht
  rw [h.aboveAll_bot le_rfl, add_eq_right] at hb
  rw [ht, hb, sub_zero]

/-- **The real-temperature table reports the shifted targets.**  Both cascades close the same
    first-law balance (the duties do not depend on the scale); imposing the shifted heat recovery
    by the offset `δ = Qr_real − Qr_shifted` on `H_cold`/`H_net` makes the real table's end values
    and heat recovery equal to the shifted ones. -/
theorem real_reports_shifted_targets (tr ts : Targets) (totH totC : Rat)
    (hr1 : tr.qc = tr.qh - totC + totH) (hr2 : tr.qr = totH - tr.qc)
    (hs1 : ts.qc = ts.qh - totC + totH) (hs2 : ts.qr = totH - ts.qc) :
    let δ := tr.qr - ts.qr
    tr.qh + δ = ts.qh ∧ tr.qc + δ = ts.qc ∧ totH - (tr.qc + δ) = ts.qr := by
  intro δ
  simp only [δ, hr2, hs2, hr1, hs1]
  exact ⟨by ring, by ring, by ring⟩

/-- **Row bookkeeping of the fresh table**: `ΔH = ΔT·CP` for the three pairs and
    `CP_net = CP_cold − CP_hot`, row by row (by construction), for any grid. -/
theorem row_bookkeeping (tol w : Rat) (T : List Rat) (hot cold : List Seg) (pt : PT)
    (h : problemTable tol w T hot cold = .ok pt) :
    pt.dHHot = List.zipWith (· * ·) pt.dT pt.cpHot ∧ pt.dHCold = List.zipWith (· * ·) pt.dT pt.cpCold ∧
    pt.dHNet = List.zipWith (· * ·) pt.dT pt.cpNet ∧ pt.cpNet = List.zipWith (· - ·) pt.cpCold pt.cpHot ∧
    pt.dT = 0 :: deltaVals tol T := by
  unfold problemTable at h
  dsimp only at h
  split at h
  · cases h; exact ⟨rfl, rfl, rfl, rfl, rfl⟩
  · cases h

/-- Interval widths equal the gap to the row above whenever the gap exceeds the tolerance. -/
theorem deltaVals_gap (tol : Rat) (htol : 0 ≤ tol) : ∀ (T : List Rat), T.Pairwise (fun a b => b + tol < a) →
    deltaVals tol T = (cells T).map (fun p => p.1 - p.2) := by
  intro T
  induction T with
  | nil => intro _; rfl
  | cons a T ih =>
    intro hp
    cases T with
    | nil => rfl
    | cons b T =>
      have hab : tol < a - b := lt_sub_iff_add_lt'.mpr ((List.pairwise_cons.mp hp).1 b List.mem_cons_self)
      rw [deltaVals_cons_cons, if_neg (not_rabs_le_of_lt hab), ih (List.pairwise_cons.mp hp).2, cells_cons_cons,
        List.map_cons]

end OP.C05

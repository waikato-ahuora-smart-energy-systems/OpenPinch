/-
  C04 — Utility profiles are thermodynamically feasible and lowest-grade-first.

  Specification side, independent of the code (this replaces the "independent LP" of the
  statement by a proved closed form): for ANY monotone pocket-free load profile `NP` and ANY
  ladder of isothermal utility levels, the ladder allocation `d_j = NP(L_j) − NP(L_{j−1})` is
  feasible at every temperature, non-negative, and each `d_j` is the largest duty that keeps
  feasibility given the lower-grade duties.  Code side: the assignment model (`assignUtility`)
  is tied to the code and its bounds are proved under C03 (`OP.C03.duties_nonneg_and_bounded`,
  `unreachable_gets_zero`, re-exported here).  Code-shaped feasibility: whenever a utility receives a
  duty, the duty assigned so far stays within the load the profile holds at a row its SUPPLY level
  reaches (`assign_respects_supply_level`, any utilities, any profile); and an isothermal level on a
  strictly descending grid takes exactly the largest unassigned load its level reaches
  (`isothermal_level_takes_largest`), which is the ladder step `NP(L) − acc` of the specification.
  Not a theorem: the target-temperature side of a GLIDING utility's profile (the `Q_tt` limit) —
  the harness checks `0 ≤ H_net_ut ≤ H_net_actual` on every row and compares the implementation
  with an independently computed lowest-grade-first optimum on every ladder of isothermal levels.
-/
import OPModel.Properties.C03
import OPModel.Proofs.UtilityClosure

namespace OP.C04
open OP

/-- Lowest-grade-first ladder: each level takes what the profile offers between the previous
    level and itself (`acc` = profile value already covered). -/
def ladderFrom (NP : Rat → Rat) (acc : Rat) : List Rat → List Rat
  | [] => []
  | L :: Ls => (NP L - acc) :: ladderFrom NP (NP L) Ls

/-- Utility heat located at or below temperature `T` (isothermal levels release all their duty at
    their level). -/
def heatBelow (T : Rat) : List Rat → List Rat → Rat
  | L :: Ls, d :: ds => (if L ≤ T then d else 0) + heatBelow T Ls ds
  | _, _ => 0

/-- **Feasible at every temperature**: the ladder never places more utility heat at or below `T`
    than the process can absorb there. -/
theorem ladder_feasible (NP : Rat → Rat) (hmono : ∀ a b, a ≤ b → NP a ≤ NP b) :
    ∀ (Ls : List Rat) (acc : Rat), Ls.Pairwise (· < ·) → (∀ L ∈ Ls, acc ≤ NP L) →
      ∀ T, acc + heatBelow T Ls (ladderFrom NP acc Ls) ≤ max acc (NP T) := by
  intro Ls
  induction Ls with
  | nil => intro acc _ _ T; exact (add_zero acc).trans_le (le_max_left _ _)
  | cons L Ls ih =>
    intro acc hp hacc T
    obtain ⟨hL, hp'⟩ := List.pairwise_cons.mp hp
    have hrec := ih (NP L) hp' (fun L' hL' => hmono L L' (le_of_lt (hL L' hL'))) T
    rw [ladderFrom, heatBelow]
    by_cases hT : L ≤ T
    · rw [max_eq_right (hmono L T hT)] at hrec
      rw [if_pos hT, ← add_assoc, add_sub_cancel]
      exact hrec.trans (le_max_right _ _)
    · -- `T < L`: the higher levels place at most `max (NP L) (NP T) - NP L = 0` at or below `T`
      rw [max_eq_left (hmono T L (le_of_lt (not_le.mp hT)))] at hrec
      rw [if_neg hT, zero_add]
      exact (add_le_of_nonpos_right ((add_le_iff_nonpos_right _).mp hrec)).trans (le_max_left _ _)

/-- Duties are non-negative. -/
theorem ladder_nonneg (NP : Rat → Rat) (hmono : ∀ a b, a ≤ b → NP a ≤ NP b) :
    ∀ (Ls : List Rat) (acc : Rat), Ls.Pairwise (· < ·) → (∀ L ∈ Ls, acc ≤ NP L) →
      ∀ d ∈ ladderFrom NP acc Ls, 0 ≤ d := by
  intro Ls
  induction Ls with
  | nil => intro acc _ _ d hd; cases hd
  | cons L Ls ih =>
    intro acc hp hacc d hd
    simp only [ladderFrom, List.mem_cons] at hd
    rcases hd with rfl | hd
    · exact sub_nonneg.mpr (hacc L List.mem_cons_self)
    · exact ih (NP L) (List.pairwise_cons.mp hp).2
        (fun L' hL' => hmono L L' (le_of_lt ((List.pairwise_cons.mp hp).1 L' hL'))) d hd

/-- **Each level carries the largest feasible duty**: with the lower-grade duties fixed (they
    cover `acc`), any duty `d'` for level `L` that respects feasibility at `T = L` is at most the
    ladder's duty. -/
theorem ladder_maximal (NP : Rat → Rat) (acc L d' : Rat) (hfeas : acc + d' ≤ NP L) :
    d' ≤ (ladderFrom NP acc [L]).headD 0 := by
  exact le_sub_iff_add_le'.mpr hfeas

/-- Bounds of the code's assignment (from C03), restated for this property. -/
theorem assignment_bounds (tol : Rat) (htol : 0 ≤ tol) (T H : List Rat) (isHot : Bool) (limit M : Rat)
    (hM : ∀ h ∈ H, h ≤ M) (hM0 : 0 ≤ M) (us : List ULevel) :
    (∀ d ∈ assignLoop tol T H isHot limit 0 us, 0 ≤ d) ∧ (assignLoop tol T H isHot limit 0 us).sum ≤ M :=
  C03.duties_nonneg_and_bounded tol htol T H isHot limit M hM hM0 us

/-- **No utility supplies heat below (removes heat above) the level at which the process can
    exchange it — code-shaped.**  For ANY profile, ANY utilities (isothermal or gliding) in the
    loop's processing order and ANY start: if the `k`-th utility receives a duty, then the duty
    assigned so far — to it and to every utility processed before it — is at most the load `r.2`
    of some row `r` of the profile that its supply level reaches (hot: `T_r ≤ t_supply + tol`;
    cold: `T_r ≥ t_supply − tol`). -/
theorem assign_respects_supply_level (tol : Rat) (T H : List Rat) (isHot : Bool) (limit qA : Rat)
    (us : List ULevel) (k : Nat) (hk : k < us.length) :
    (assignLoop tol T H isHot limit qA us)[k]? = some 0 ∨
      ∃ r ∈ T.zip H, Reaches tol isHot us[k] r ∧
        qA + ((assignLoop tol T H isHot limit qA us).take (k + 1)).sum ≤ r.2 := by
  induction us generalizing qA k with
  | nil => exact absurd hk (Nat.not_lt_zero k)
  | cons u us ih =>
    rw [assignLoop_cons]
    cases k with
    | zero =>
      simp only [List.getElem?_cons_zero, List.take_succ_cons, List.take_zero, List.sum_cons, List.sum_nil,
        add_zero, List.getElem_cons_zero]
      rcases taken_eq tol (maximiseUtilityDuty tol T H u isHot qA) with e | e
      · exact Or.inl (congrArg some e)
      · rw [e]; exact (maximise_reaches tol T H u isHot qA).imp (congrArg some) id
    | succ k =>
      have hk' : k < us.length := Nat.lt_of_succ_lt_succ hk
      -- the utilities before `us[k]` include `u`, whose duty moves into the start value
      rw [List.getElem?_cons_succ, List.take_succ_cons, List.sum_cons, ← add_assoc]
      split
      · -- the loop stopped at `u`: every later utility gets 0
        left
        rw [List.getElem?_map, List.getElem?_eq_getElem hk']
        rfl
      · exact ih _ k hk'

/-- **Each isothermal level carries the largest duty — code-shaped.**  On a strictly descending
    grid an isothermal utility's duty is zero (nothing within reach) or equals the largest
    potential `H_row − assigned` over the valid intervals its level reaches: no smaller (second
    part) and no larger (first part). -/
theorem isothermal_level_takes_largest (tol : Rat) (T H : List Rat) (u : ULevel) (isHot : Bool) (qA : Rat)
    (hiso : u.tt = u.ts) (hlen : T.length = H.length) (hdesc : T.Pairwise (· > ·)) :
    maximiseUtilityDuty tol T H u isHot qA = 0 ∨
      ((∃ c ∈ candidates tol T H u isHot qA, maximiseUtilityDuty tol T H u isHot qA ≤ c.qPot) ∧
       ∀ c ∈ candidates tol T H u isHot qA, c.qPot ≤ maximiseUtilityDuty tol T H u isHot qA) := by
  rcases maximise_spec tol T H u isHot qA with ⟨h0, _⟩ | ⟨hle, _, hge | ⟨c, hc, hpast, _⟩⟩
  · exact Or.inl h0
  · exact Or.inr ⟨hle, hge⟩
  · -- no valid interval lies past the target level: the supply level, which is the target level, reaches its
    -- `adj` row, and the `cur` row lies short of that one
    obtain ⟨cell, hcell, ⟨_, hs, _⟩, rfl⟩ := mem_candidates.mp hc
    rw [hiso] at hpast
    exact absurd hpast (not_lt.mpr (Rat.neg_le_iff.mp (le_beyond_trans hs (adj_beyond_cur isHot hlen hdesc hcell).le)))

/-- **Return-temperature side of a gliding utility — code-shaped.**  A utility that glides linearly
    from supply to target and is given the duty `d = _maximise_utility_duty(…)` still has to release
    `d · (T_row − t_target) / |t_target − t_supply|` beyond a row lying past its target temperature.
    For EVERY valid interval past the target (`tol < −dtTar`, hot: `−dtTar = T_lower − t_target`;
    cold: `t_target − T_upper`) that share fits the load `qCur` the profile still holds at that row:
    `d · (−dtTar) ≤ qCur · |t_target − t_supply|`.  (With `Q_tt.max()` in place of `.min()` — seeded
    change C09-glide-cap-max — this statement is false of the code.) -/
theorem gliding_level_respects_return_limit (tol : Rat) (htol : 0 ≤ tol) (T H : List Rat) (u : ULevel)
    (isHot : Bool) (qA : Rat) (c : Cand) (hc : c ∈ candidates tol T H u isHot qA) (hpast : tol < -c.dtTar) :
    maximiseUtilityDuty tol T H u isHot qA * (-c.dtTar) ≤ c.qCur * rabs (u.tt - u.ts) ∨
    maximiseUtilityDuty tol T H u isHot qA = 0 := by
  rcases maximise_spec tol T H u isHot qA with ⟨h0, _⟩ | ⟨_, hcap, _⟩
  · exact Or.inr h0
  · left
    have hpos : 0 < -c.dtTar := lt_of_le_of_lt htol hpast
    calc maximiseUtilityDuty tol T H u isHot qA * (-c.dtTar)
        ≤ cap u c * (-c.dtTar) := Rat.mul_le_mul_of_nonneg_right (hcap c hc hpast) hpos.le
      _ = c.qCur * rabs (u.tt - u.ts) := cap_mul u hpos

/-- Non-vacuity: a loop gliding 210 → 120 on the profile 500 → 300 → 0 over 200/150/100 with a further
    row at 130: the interval ending at 130 lies past nothing (130 > 120 is past the target), and the
    duty is capped by what the profile holds there. -/
example : maximiseUtilityDuty Gen.tol [200, 150, 130, 100] [500, 300, 40, 0] ⟨210, 120⟩ true 0 = 360 ∧
    (candidates Gen.tol [200, 150, 130, 100] [500, 300, 40, 0] ⟨210, 120⟩ true 0).map (fun c => (c.qCur, c.dtTar))
      = [(300, -30), (40, -10), (0, 20)] := by
  constructor <;> decide +kernel

/-- Non-vacuity (heating profile 500 → 300 → 0 over 200/150/100): an isothermal level at 160 takes
    the 300 it reaches and the level at 210 the rest; a loop gliding 210 → 120 may take all 500. -/
example : assignLoop Gen.tol [200, 150, 100] [500, 300, 0] true 500 0 [⟨160, 160⟩, ⟨210, 210⟩] = [300, 200] ∧
    assignLoop Gen.tol [200, 150, 100] [500, 300, 0] true 500 0 [⟨210, 120⟩, ⟨260, 260⟩] = [500, 0] := by
  constructor <;> decide +kernel

/-- Non-vacuity: profile `NP(T) = max 0 (T − 100)·10` with levels 150, 200, 260. -/
example : ladderFrom (fun t => max 0 ((t - 100) * 10)) 0 [150, 200, 260] = [500, 500, 600] := by decide +kernel

end OP.C04

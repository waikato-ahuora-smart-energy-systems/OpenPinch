/-
  C07, C08: one interpolated column of the rebuilt table, read as a polyline.

  Through `cellPt cfg c` (temperature cell, cell of column `c`) every block of `insertTemps` is a
  list of points: the old rows keep theirs, a middle block puts its rows on the chord between its
  two neighbours, the top and bottom blocks repeat the first and the last value.  `refinedPts` is
  that list for the whole result; it is strictly descending and carries the old polyline.
  `SameCurve` — "column `c` is numeric over strictly descending temperatures and is this
  polyline" — is therefore preserved by `insertTemps`, by `insertMany`, and (C07) by the pocket sweep.
-/
import OPModel.Proofs.TableLemmas
import OPModel.Proofs.TableRequests
import OPModel.Proofs.PiecewiseLinear

namespace OP

def cellPt (cfg : TblCfg) (c : Nat) (r : Row) : Cell × Cell := (r.get cfg.tI, r.get c)

def somePt (p : Pt) : Cell × Cell := (some p.1, some p.2)

/-- Column `c` is numeric over strictly descending temperatures, with points `p0 :: P`. -/
def CurveInv (cfg : TblCfg) (c : Nat) (rows : List Row) (p0 : Pt) (P : List Pt) : Prop :=
  rows.map (cellPt cfg c) = (p0 :: P).map somePt ∧ (p0 :: P).Pairwise (fun a b => b.1 < a.1)

/-- `rows'` carries the same polyline in column `c` as the points `p0 :: P`. -/
def SameCurve (cfg : TblCfg) (c : Nat) (rows' : List Row) (p0 : Pt) (P : List Pt) : Prop :=
  ∃ q0 Q, CurveInv cfg c rows' q0 Q ∧ ∀ x, plAt (q0 :: Q) x = plAt (p0 :: P) x

theorem SameCurve.refl {cfg c rows p0 P} (h : CurveInv cfg c rows p0 P) : SameCurve cfg c rows p0 P :=
  ⟨p0, P, h, fun _ => rfl⟩

theorem SameCurve.congr {cfg c p0 P} {rows rows' : List Row} (h : SameCurve cfg c rows p0 P)
    (e : rows'.map (cellPt cfg c) = rows.map (cellPt cfg c)) : SameCurve cfg c rows' p0 P := by
  obtain ⟨q0, Q, ⟨hq, hd⟩, hp⟩ := h
  exact ⟨q0, Q, ⟨e.trans hq, hd⟩, hp⟩

theorem temps_of_cellPts {cfg : TblCfg} {c : Nat} {rows : List Row} {P : List Pt}
    (h : rows.map (cellPt cfg c) = P.map somePt) : temps cfg rows = some (P.map (·.1)) := by
  -- the first components of `h`, row by row
  have : List.Forall₂ (· = ·) (rows.map (cellPt cfg c)) (P.map somePt) := by rw [List.forall₂_eq_eq_eq]; exact h
  refine temps_eq_some_iff.mpr (List.forall₂_map_right_iff.mpr ?_)
  exact (List.forall₂_map_right_iff.mp (List.forall₂_map_left_iff.mp this)).imp fun _ _ e => congrArg Prod.fst e

section column

variable {cfg : TblCfg} (ok : CfgOK cfg) {c : Nat} (hc : c ∈ cfg.interp)
include ok hc

theorem cellPt_recomputeDH (r : Row) : cellPt cfg c (recomputeDH cfg r) = cellPt cfg c r := by
  unfold cellPt
  rw [recomputeDH_get cfg r cfg.tI (fun p hp => (ok.dh p hp).2.1),
    recomputeDH_get cfg r c (fun p hp e => (ok.dh p hp).1 (e ▸ hc))]

theorem cellPt_put_dI (r : Row) (v : Cell) : cellPt cfg c (r.put cfg.dI v) = cellPt cfg c r := by
  unfold cellPt
  rw [Row.get_put r cfg.dI cfg.tI v (Ne.symm ok.td), Row.get_put r cfg.dI c v (fun e => ok.dInterp (e ▸ hc))]

theorem cellPt_edgeRow (nb : Row) (t dt : Rat) : cellPt cfg c (edgeRow cfg nb t dt) = (some t, nb.get c) := by
  unfold cellPt
  rw [edgeRow_get_tI cfg ok, edgeRow_get_interp cfg ok nb t dt hc]

theorem cellPt_midRow {tol : Rat} {up lo : Row} {p0 p1 : Pt} (t : Rat)
    (hu : up.get c = some p0.2) (hl : lo.get c = some p1.2) (hgap : tol < p0.1 - p1.1) :
    cellPt cfg c (midRow cfg tol up lo p0.1 p1.1 t) = somePt (t, lin p0 p1 t) := by
  unfold cellPt
  rw [midRow_get_tI cfg ok, midRow_get_interp cfg ok tol up lo p0.1 p1.1 t hc hu hl (not_rabs_le_of_lt hgap)]
  rfl

theorem map_cellPt_withGaps : ∀ (l : List (Rat × Row)) (prevT : Rat),
    (withGaps cfg prevT l).map (cellPt cfg c) = l.map (fun p => cellPt cfg c p.2) := by
  intro l
  induction l with
  | nil => exact fun _ => rfl
  | cons p rest ih =>
    intro prevT
    simp only [withGaps, List.map_cons, ih, cellPt_recomputeDH ok hc, cellPt_put_dI ok hc]

theorem midBlock_column {tol : Rat} {up lo : Row} {p0 p1 : Pt} {ts : List Rat}
    (hu : up.get c = some p0.2) (hl : lo.get c = some p1.2) (hgap : ts ≠ [] → tol < p0.1 - p1.1) :
    cellPt cfg c (midBlock cfg tol up lo p0.1 p1.1 ts).1 = cellPt cfg c up ∧
    (midBlock cfg tol up lo p0.1 p1.1 ts).2.1.map (cellPt cfg c) = (ts.map fun t => ((t, lin p0 p1 t) : Pt)).map somePt ∧
    cellPt cfg c (midBlock cfg tol up lo p0.1 p1.1 ts).2.2 = cellPt cfg c lo := by
  unfold midBlock
  cases h : ts.getLast? with
  | none =>
    have : ts = [] := List.getLast?_eq_none_iff.mp h
    subst this
    exact ⟨rfl, rfl, rfl⟩
  | some lastT =>
    have hne : ts ≠ [] := fun e => by rw [e] at h; cases h
    refine ⟨cellPt_recomputeDH ok hc up, ?_, ?_⟩
    · simp only [map_cellPt_withGaps ok hc, List.map_map]
      exact List.map_congr_left fun t _ => cellPt_midRow ok hc t hu hl (hgap hne)
    · simp only [cellPt_recomputeDH ok hc, cellPt_put_dI ok hc]

theorem edgeChain_column {v : Cell} (nb : Row) (prevT : Rat) (ts : List Rat) (h : nb.get c = v) :
    (edgeChain cfg nb prevT ts).map (cellPt cfg c) = ts.map (fun t => (some t, v)) := by
  induction ts generalizing nb prevT with
  | nil => rfl
  | cons t ts ih =>
    have hr := cellPt_edgeRow ok hc nb t (rabs (t - prevT))
    simp only [edgeChain, List.map_cons, hr, h]
    rw [ih _ t ((congrArg Prod.snd hr).trans h)]

theorem shiftDT_column : ∀ (rs : List Row), (shiftDT cfg rs).map (cellPt cfg c) = rs.map (cellPt cfg c) := by
  intro rs
  induction rs with
  | nil => rfl
  | cons r1 rs ih =>
    cases rs with
    | nil => simp only [shiftDT, List.map_cons, List.map_nil, cellPt_put_dI ok hc]
    | cons r2 rest =>
      simp only [shiftDT, List.map_cons, cellPt_put_dI ok hc] at ih ⊢
      rw [ih]

theorem topBlock_column (nb : Row) (nbT : Rat) (tops : List Rat) :
    (topBlock cfg nb nbT tops).1.map (cellPt cfg c) = tops.map (fun t => (some t, nb.get c)) ∧
    cellPt cfg c (topBlock cfg nb nbT tops).2 = cellPt cfg c nb := by
  unfold topBlock
  cases h : tops.reverse with
  | nil =>
    have : tops = [] := List.reverse_eq_nil_iff.mp h
    subst this
    exact ⟨rfl, rfl⟩
  | cons a0 asc =>
    have hc' := edgeChain_column ok hc nb nbT (a0 :: asc) rfl
    have : tops = (a0 :: asc).reverse := by rw [← h, List.reverse_reverse]
    refine ⟨?_, cellPt_put_dI ok hc nb _⟩
    rw [List.map_reverse, apply_ite (List.map (cellPt cfg c)), shiftDT_column ok hc, ite_self, hc', this, List.map_reverse]

end column

/-- Below `p0`: for every old row the bucket of the interval above it, on the chord, then the row. -/
def walkTail (tol : Rat) (mid : List Rat) : Pt → List Pt → List Pt
  | _, [] => []
  | p0, p1 :: rest =>
    (bucket tol p0.1 p1.1 mid).map (fun t => (t, lin p0 p1 t)) ++ p1 :: walkTail tol mid p1 rest

theorem walkTail_cons (tol : Rat) (mid : List Rat) (p0 p1 : Pt) (rest : List Pt) :
    walkTail tol mid p0 (p1 :: rest) =
      (bucket tol p0.1 p1.1 mid).map (fun t => (t, lin p0 p1 t)) ++ p1 :: walkTail tol mid p1 rest := rfl

def refinedPts (tol : Rat) (p0 : Pt) (P : List Pt) (tops mid bots : List Rat) : List Pt :=
  (tops.map fun t => ((t, p0.2) : Pt)) ++ p0 :: walkTail tol mid p0 P ++
    bots.map fun t => ((t, ((p0 :: P).getLast (List.cons_ne_nil _ _)).2) : Pt)

theorem walk_column {cfg : TblCfg} (ok : CfgOK cfg) {tol : Rat} (htol : 0 ≤ tol) {c : Nat} (hc : c ∈ cfg.interp)
    (mid : List Rat) {rest : List Row} :
    ∀ {P : List Pt} {up : Row} {p0 : Pt}, cellPt cfg c up = somePt p0 →
      rest.map (cellPt cfg c) = P.map somePt →
      (walk cfg tol mid up p0.1 (rest.zip (P.map (·.1)))).map (cellPt cfg c) = (p0 :: walkTail tol mid p0 P).map somePt := by
  induction rest with
  | nil =>
    intro P up p0 h0 hP
    cases P with
    | nil => exact congrArg (· :: []) h0
    | cons _ _ => cases hP
  | cons lo rest ih =>
    intro P up p0 h0 hP
    cases P with
    | nil => cases hP
    | cons p1 P =>
      obtain ⟨hlo, hP'⟩ := List.cons.inj hP
      -- a bucket member lies more than `tol` from either row, so a non-empty bucket forces the rows apart
      have hgap : bucket tol p0.1 p1.1 mid ≠ [] → tol < p0.1 - p1.1 := by
        intro hne
        obtain ⟨t, ht⟩ := List.exists_mem_of_ne_nil _ hne
        obtain ⟨b1, b2⟩ := bucket_mem tol p0.1 p1.1 mid t ht
        exact lt_sub_iff_add_lt'.mpr (b1.trans (b2.trans_le (sub_le_self _ htol)))
      obtain ⟨m1, m2, m3⟩ := midBlock_column ok hc (congrArg Prod.snd h0) (congrArg Prod.snd hlo) hgap
      rw [List.map_cons, List.zip_cons_cons, walk_cons, List.map_append, List.map_cons, m1, m2,
        ih (m3.trans hlo) hP', h0]
      conv_rhs => rw [walkTail_cons, List.map_cons, List.map_append, List.map_cons]
      rfl

theorem assemble_column {cfg : TblCfg} (ok : CfgOK cfg) {tol : Rat} (htol : 0 ≤ tol) {c : Nat} (hc : c ∈ cfg.interp)
    {r0 : Row} {rest : List Row} {p0 : Pt} {P : List Pt}
    (h : (r0 :: rest).map (cellPt cfg c) = (p0 :: P).map somePt) (tops mid bots : List Rat) :
    (assemble cfg tol r0 rest p0.1 (P.map (·.1)) tops mid bots).map (cellPt cfg c)
      = (refinedPts tol p0 P tops mid bots).map somePt := by
  obtain ⟨h0, hrest⟩ := List.cons.inj h
  obtain ⟨ht, hr0⟩ := topBlock_column ok hc r0 p0.1 tops
  have hlast : cellPt cfg c ((r0 :: rest).getLast (List.cons_ne_nil _ _))
      = somePt ((p0 :: P).getLast (List.cons_ne_nil _ _)) :=
    Option.some.inj ((getLast?_map_cons _ r0 rest).symm.trans
      ((congrArg List.getLast? h).trans (getLast?_map_cons somePt p0 P)))
  have hu : r0.get c = some p0.2 := congrArg Prod.snd h0
  unfold assemble refinedPts bottomBlock
  simp only [List.map_append, List.map_map]
  rw [ht, hu, walk_column ok htol hc mid (hr0.trans h0) hrest,
    edgeChain_column ok hc _ _ bots (congrArg Prod.snd hlast)]
  rfl

theorem bucket_pairwise {tol : Rat} (htol : 0 ≤ tol) (mid : List Rat) (p0 p1 : Pt) :
    (p0 :: (bucket tol p0.1 p1.1 mid).map fun t => ((t, lin p0 p1 t) : Pt)).Pairwise (fun a b => b.1 < a.1) ∧
    ∀ m ∈ (bucket tol p0.1 p1.1 mid).map fun t => ((t, lin p0 p1 t) : Pt), p1.1 < m.1 := by
  refine ⟨List.pairwise_cons.mpr ⟨?_, List.pairwise_map.mpr (dedupeMono_sortDesc_pairwise htol _)⟩, ?_⟩
  · exact List.forall_mem_map.mpr fun t ht =>
      lt_of_lt_of_le (bucket_mem tol p0.1 p1.1 mid t ht).2 (sub_le_self _ htol)
  · exact List.forall_mem_map.mpr fun t ht =>
      lt_of_le_of_lt (le_add_of_nonneg_right htol) (bucket_mem tol p0.1 p1.1 mid t ht).1

theorem getLast?_walkTail (tol : Rat) (mid : List Rat) : ∀ (P : List Pt) (p0 : Pt),
    (p0 :: walkTail tol mid p0 P).getLast? = (p0 :: P).getLast? := by
  intro P
  induction P with
  | nil => exact fun _ => rfl
  | cons p1 P ih =>
    intro p0
    rw [walkTail_cons, ← List.cons_append, List.getLast?_append_cons, List.getLast?_cons_cons]
    exact ih p1

theorem plAt_walkTail {tol : Rat} (htol : 0 ≤ tol) (mid : List Rat) :
    ∀ (P : List Pt) (p0 : Pt) (x : Rat), plAt (p0 :: walkTail tol mid p0 P) x = plAt (p0 :: P) x := by
  intro P
  induction P with
  | nil => exact fun _ _ => rfl
  | cons p1 P ih =>
    intro p0 x
    obtain ⟨hb, hlo⟩ := bucket_pairwise htol mid p0 p1
    have e := plAt_prefix_congr (ih p1)
      (p0 :: (bucket tol p0.1 p1.1 mid).map (fun t => (t, lin p0 p1 t))) x
    rw [walkTail_cons, ← List.cons_append, e]
    exact plAt_insert_many p1 P hb hlo (List.forall_mem_map.mpr fun _ _ => rfl) x

/-- Strict descent is a chain glued from chains: each bucket hangs between its two rows. -/
theorem walkTail_chain {tol : Rat} (htol : 0 ≤ tol) (mid : List Rat) :
    ∀ {P : List Pt} {p0 : Pt}, List.IsChain (fun a b : Pt => b.1 < a.1) (p0 :: P) →
      List.IsChain (fun a b : Pt => b.1 < a.1) (p0 :: walkTail tol mid p0 P) := by
  intro P
  induction P with
  | nil => exact fun _ => List.isChain_singleton _
  | cons p1 P ih =>
    intro p0 hd
    obtain ⟨h01, hd'⟩ := List.isChain_cons_cons.mp hd
    obtain ⟨hb, hlo⟩ := bucket_pairwise htol mid p0 p1
    rw [walkTail_cons, ← List.cons_append]
    refine List.IsChain.append hb.isChain (ih hd') ?_
    intro x hx y hy
    cases hy
    rcases List.mem_cons.mp (List.mem_of_getLast? hx) with rfl | hx
    · exact h01
    · exact hlo x hx

theorem plAt_refinedPts {tol : Rat} (htol : 0 ≤ tol) {p0 : Pt} {P : List Pt}
    (hd : (p0 :: P).Pairwise (fun a b => b.1 < a.1)) {tops : List Rat} (mid : List Rat) {bots : List Rat}
    (htops : (tops ++ [p0.1]).Pairwise (fun a b => b < a))
    (hbots : (((p0 :: P).getLast (List.cons_ne_nil _ _)).1 :: bots).Pairwise (fun a b => b < a)) :
    (refinedPts tol p0 P tops mid bots).Pairwise (fun a b => b.1 < a.1) ∧
      ∀ x, plAt (refinedPts tol p0 P tops mid bots) x = plAt (p0 :: P) x := by
  have : IsTrans Pt (fun a b => b.1 < a.1) := ⟨fun a b c h1 h2 => lt_trans h2 h1⟩
  obtain ⟨htp, -, hta⟩ := List.pairwise_append.mp htops
  obtain ⟨hba, hbp⟩ := List.pairwise_cons.mp hbots
  have hlast : (p0 :: walkTail tol mid p0 P).getLast? = some ((p0 :: P).getLast (List.cons_ne_nil _ _)) :=
    (getLast?_walkTail tol mid P p0).trans (List.getLast?_eq_some_getLast _)
  unfold refinedPts
  constructor
  · refine (List.IsChain.append (List.IsChain.append (List.pairwise_map.mpr htp).isChain
      (walkTail_chain htol mid hd.isChain) ?_) (List.pairwise_map.mpr hbp).isChain ?_).pairwise
    · intro x hx y hy
      cases hy
      obtain ⟨t, ht, rfl⟩ := List.mem_map.mp (List.mem_of_getLast? hx)
      exact hta t ht p0.1 List.mem_cons_self
    · intro x hx y hy
      rw [List.getLast?_append_cons, hlast] at hx
      cases hx
      obtain ⟨t, ht, rfl⟩ := List.mem_map.mp (List.mem_of_head? hy)
      exact hba t ht
  · intro x
    rw [List.append_assoc, List.cons_append, plAt_extend_top_many p0 _ tops htops x, ← List.cons_append,
      plAt_extend_bottom_many p0 _ bots hlast x]
    exact plAt_walkTail htol mid P p0 x

theorem SameCurve.insertTemps {cfg : TblCfg} (ok : CfgOK cfg) {tol : Rat} (htol : 0 ≤ tol) {c : Nat} (hc : c ∈ cfg.interp)
    {rows : List Row} {p0 : Pt} {P : List Pt} (h : SameCurve cfg c rows p0 P) (vals : List Rat) :
    ∃ out, OP.insertTemps cfg tol rows vals = .ok (out, out.length - rows.length) ∧ SameCurve cfg c out p0 P := by
  obtain ⟨q0, Q, ⟨hQ, hd⟩, hp⟩ := h
  have hT := temps_of_cellPts hQ
  have hsd : strictlyDesc ((q0 :: Q).map (·.1)) = true := strictlyDesc_of_pairwise _ (List.pairwise_map.mpr hd)
  cases rows with
  | nil => cases hQ
  | cons r0 rest =>
    simp only [List.map_cons] at hT hsd
    let need := needInsert tol (q0.1 :: Q.map (·.1)) vals
    have htl : (q0.1 :: Q.map (·.1)).getLast (List.cons_ne_nil _ _) = ((q0 :: Q).getLast (List.cons_ne_nil _ _)).1 :=
      List.getLast_map (f := fun p : Pt => p.1) (l := q0 :: Q) _
    obtain ⟨hq, hpl⟩ := plAt_refinedPts htol hd (midOf q0.1 _ need)
      (topsOf_desc htol q0.1 need) (by rw [← htl]; exact botsOf_desc htol _ need)
    -- the refinement is `q0 :: …` or starts with a top request: a cons either way
    obtain ⟨r, R, e⟩ := List.exists_cons_of_ne_nil
      (l := refinedPts tol q0 Q (topsOf tol q0.1 need) (midOf q0.1 _ need) (botsOf tol _ need))
      (List.append_ne_nil_of_left_ne_nil (List.append_ne_nil_of_right_ne_nil _ (List.cons_ne_nil _ _)) _)
    rw [e] at hq hpl
    exact ⟨_, insertTemps_eq tol vals hT hsd, r, R,
      ⟨(assemble_column ok htol hc hQ _ _ _).trans (congrArg _ e), hq⟩,
      fun x => (hpl x).trans (hp x)⟩

theorem SameCurve.insertMany {cfg : TblCfg} (ok : CfgOK cfg) {tol : Rat} (htol : 0 ≤ tol) {c : Nat} (hc : c ∈ cfg.interp)
    {p0 : Pt} {P : List Pt} : ∀ (reqs : List (List Rat)) {rows : List Row}, SameCurve cfg c rows p0 P →
      ∃ counts out, OP.insertMany cfg tol rows reqs = .ok (counts, out) ∧ counts.length = reqs.length ∧
        SameCurve cfg c out p0 P := by
  intro reqs
  induction reqs with
  | nil => exact fun {rows} h => ⟨[], rows, rfl, rfl, h⟩
  | cons req reqs ih =>
    intro rows h
    obtain ⟨out1, e1, h1⟩ := h.insertTemps ok htol hc req
    obtain ⟨cs, out, e2, hlen, h2⟩ := ih h1
    refine ⟨(out1.length - rows.length) :: cs, out, ?_, congrArg Nat.succ hlen, h2⟩
    simp only [OP.insertMany, e1, e2, bind, Except.bind, pure, Except.pure]

end OP

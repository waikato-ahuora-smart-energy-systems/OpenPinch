/-
  C12 helpers: how the specification of the energy targets (`deficit`, `total`) behaves under
  equivalent descriptions of the stream set.
-/
import OPModel.Proofs.CascadeLemmas
import Mathlib.Algebra.Order.Group.MinMax

namespace OP

/-- `t` are the exact targets of the stream set: `qh` is the largest net heat deficit above any
    temperature and is attained; `qc`, `qr` close the balance (the conclusion of `C01.di_targets_exact`). -/
structure IsTargets (hot cold : List Seg) (t : Targets) : Prop where
  ub : ∀ x : Rat, deficit hot cold x ≤ t.qh
  att : ∃ x : Rat, deficit hot cold x = t.qh
  qc : t.qc = t.qh - total cold + total hot
  qr : t.qr = total hot - t.qc

theorem IsTargets.unique {hot cold : List Seg} {t t' : Targets} (h : IsTargets hot cold t) (h' : IsTargets hot cold t') :
    t = t' := by
  obtain ⟨x, hx⟩ := h.att
  obtain ⟨x', hx'⟩ := h'.att
  have e : t.qh = t'.qh := le_antisymm (hx ▸ h'.ub x) (hx' ▸ h.ub x')
  have ec : t.qc = t'.qc := by rw [h.qc, h'.qc, e]
  have er : t.qr = t'.qr := by rw [h.qr, h'.qr, ec]
  cases t
  cases t'
  exact Targets.mk.injEq .. ▸ ⟨e, ec, er⟩

theorem IsTargets.congr {hot cold hot' cold' : List Seg} {t : Targets}
    (hd : ∀ x, deficit hot' cold' x = deficit hot cold x) (hc : total cold' = total cold) (hh : total hot' = total hot)
    (h : IsTargets hot cold t) : IsTargets hot' cold' t :=
  ⟨fun x => by rw [hd]; exact h.ub x, by obtain ⟨x, hx⟩ := h.att; exact ⟨x, by rw [hd]; exact hx⟩,
   by rw [hc, hh]; exact h.qc, by rw [hh]; exact h.qr⟩

theorem aboveAll_perm {a b : List Seg} (h : a.Perm b) (x : Rat) : aboveAll a x = aboveAll b x := by
  unfold aboveAll; exact (h.map _).sum_eq

theorem total_perm {a b : List Seg} (h : a.Perm b) : total a = total b := by
  unfold total; exact (h.map _).sum_eq

theorem above_split_serial (lo m hi cp r : Rat) (h1 : lo ≤ m) (h2 : m ≤ hi) (x : Rat) :
    above ⟨lo, hi, cp, r⟩ x = above ⟨lo, m, cp, r⟩ x + above ⟨m, hi, cp, r⟩ x := by
  unfold above
  simp only
  rw [← mul_add]
  rcases le_total x m with h | h
  · -- the upper piece is whole
    have hl : max lo x ≤ m := max_le h1 h
    rw [max_eq_left h, max_zero_sub_of_le h2, max_zero_sub_of_le hl, max_zero_sub_of_le (hl.trans h2),
      sub_add_sub_cancel']
  · -- the lower piece is empty
    rw [max_eq_right (le_trans h1 h), max_eq_right h, max_zero_sub_of_ge h, zero_add]

theorem above_split_parallel (lo hi a b r : Rat) (x : Rat) :
    above ⟨lo, hi, a + b, r⟩ x = above ⟨lo, hi, a, r⟩ x + above ⟨lo, hi, b, r⟩ x := by
  unfold above; exact add_mul a b _

theorem duty_split_serial (lo m hi cp r : Rat) :
    duty ⟨lo, hi, cp, r⟩ = duty ⟨lo, m, cp, r⟩ + duty ⟨m, hi, cp, r⟩ := by
  unfold duty; simp only; rw [← mul_add, sub_add_sub_cancel']

theorem duty_split_parallel (lo hi a b r : Rat) :
    duty ⟨lo, hi, a + b, r⟩ = duty ⟨lo, hi, a, r⟩ + duty ⟨lo, hi, b, r⟩ := by unfold duty; exact add_mul a b _

theorem IsTargets.split_cold {hot cold : List Seg} {s s1 s2 : Seg} {t : Targets}
    (ha : ∀ x, above s x = above s1 x + above s2 x) (hd : duty s = duty s1 + duty s2)
    (h : IsTargets hot (s :: cold) t) : IsTargets hot (s1 :: s2 :: cold) t :=
  h.congr (fun x => by unfold deficit; rw [aboveAll_cons, aboveAll_cons, aboveAll_cons, ha, add_assoc])
    (by rw [total_cons, total_cons, total_cons, hd, add_assoc]) rfl

theorem IsTargets.split_hot {hot cold : List Seg} {s s1 s2 : Seg} {t : Targets}
    (ha : ∀ x, above s x = above s1 x + above s2 x) (hd : duty s = duty s1 + duty s2)
    (h : IsTargets (s :: hot) cold t) : IsTargets (s1 :: s2 :: hot) cold t :=
  h.congr (fun x => by unfold deficit; rw [aboveAll_cons, aboveAll_cons, aboveAll_cons, ha, add_assoc])
    rfl (by rw [total_cons, total_cons, total_cons, hd, add_assoc])

def Seg.shift (d : Rat) (s : Seg) : Seg := { s with lo := s.lo + d, hi := s.hi + d }
def Seg.scale (k : Rat) (s : Seg) : Seg := { s with cp := k * s.cp }
/-- mirroring the temperature axis about 0 (any other centre is a translation away) -/
def Seg.mirror (s : Seg) : Seg := { s with lo := -s.hi, hi := -s.lo }

theorem above_shift (d : Rat) (s : Seg) (x : Rat) : above (s.shift d) (x + d) = above s x := by
  unfold above Seg.shift
  simp only
  rw [max_add_add_right, add_sub_add_right_eq_sub]

theorem duty_shift (d : Rat) (s : Seg) : duty (s.shift d) = duty s := by
  unfold duty Seg.shift; simp only; rw [add_sub_add_right_eq_sub]
theorem above_scale (k : Rat) (s : Seg) (x : Rat) : above (s.scale k) x = k * above s x := by
  unfold above Seg.scale; exact mul_assoc k s.cp _
theorem duty_scale (k : Rat) (s : Seg) : duty (s.scale k) = k * duty s := by
  unfold duty Seg.scale; exact mul_assoc k s.cp _
theorem duty_mirror (s : Seg) : duty s.mirror = duty s := by unfold duty Seg.mirror; simp only; rw [neg_sub_neg]

theorem above_mirror_eq_below (s : Seg) (x : Rat) : above s.mirror (-x) = below s x := by
  unfold above below Seg.mirror
  simp only
  rw [max_neg_neg, neg_sub_neg]

theorem above_mirror (s : Seg) (hs : s.lo ≤ s.hi) (x : Rat) : above s.mirror (-x) = duty s - above s x := by
  rw [above_mirror_eq_below, ← below_add_above_one s x hs, add_sub_cancel_right]

theorem aboveAll_shift (d : Rat) (ss : List Seg) (x : Rat) : aboveAll (ss.map (Seg.shift d)) (x + d) = aboveAll ss x := by
  unfold aboveAll
  rw [List.map_map]
  exact congrArg List.sum (List.map_congr_left fun s _ => above_shift d s x)

theorem total_map_eq (f : Seg → Seg) (hf : ∀ s, duty (f s) = duty s) (ss : List Seg) : total (ss.map f) = total ss := by
  unfold total
  rw [List.map_map]
  exact congrArg List.sum (List.map_congr_left fun s _ => hf s)

theorem aboveAll_scale (k : Rat) (ss : List Seg) (x : Rat) : aboveAll (ss.map (Seg.scale k)) x = k * aboveAll ss x := by
  unfold aboveAll
  rw [List.map_map, ← List.sum_map_mul_left]
  exact congrArg List.sum (List.map_congr_left fun s _ => above_scale k s x)

theorem total_scale (k : Rat) (ss : List Seg) : total (ss.map (Seg.scale k)) = k * total ss := by
  unfold total
  rw [List.map_map, ← List.sum_map_mul_left]
  exact congrArg List.sum (List.map_congr_left fun s _ => duty_scale k s)

theorem aboveAll_mirror (ss : List Seg) (hs : ∀ s ∈ ss, s.lo ≤ s.hi) (x : Rat) :
    aboveAll (ss.map Seg.mirror) (-x) = total ss - aboveAll ss x := by
  unfold aboveAll total
  rw [List.map_map, ← sum_map_sub]
  exact congrArg List.sum (List.map_congr_left fun s h => above_mirror s (hs s h) x)

theorem deficit_shift (d : Rat) (hot cold : List Seg) (x : Rat) :
    deficit (hot.map (Seg.shift d)) (cold.map (Seg.shift d)) (x + d) = deficit hot cold x := by
  unfold deficit; rw [aboveAll_shift, aboveAll_shift]

theorem deficit_scale (k : Rat) (hot cold : List Seg) (x : Rat) :
    deficit (hot.map (Seg.scale k)) (cold.map (Seg.scale k)) x = k * deficit hot cold x := by
  unfold deficit; rw [aboveAll_scale, aboveAll_scale, mul_sub]

theorem deficit_mirror {hot cold : List Seg} (hh : ∀ s ∈ hot, s.lo ≤ s.hi) (hc : ∀ s ∈ cold, s.lo ≤ s.hi) (x : Rat) :
    deficit (cold.map Seg.mirror) (hot.map Seg.mirror) (-x) = deficit hot cold x + total hot - total cold := by
  unfold deficit; rw [aboveAll_mirror hot hh, aboveAll_mirror cold hc]; ring

end OP

/-
  C03 helpers on the loop of `_assign_utility`: one turn as an equation, the bounds on the duties, and closure:
  a ladder that contains a utility which takes all that is left once it is reached allocates the target within
  `tol`; a utility whose levels lie past the rows where the load profile changes is such a utility.  At the end,
  the extreme shifted temperatures of the default-utility decision (`huTmin_ge`, `cuTmax_le`).
-/
import OPModel.Proofs.UtilityLemmas
import OPModel.Model.Defaults
import Mathlib.Algebra.Order.BigOperators.Group.List

namespace OP

theorem le_head_of_desc {H : List Rat} {limit : Rat} (hmono : H.Pairwise (· ≥ ·)) (hhead : H.head? = some limit) :
    ∀ h ∈ H, h ≤ limit :=
  fun _ hh => (List.head_eq_iff_head?_eq_some (List.ne_nil_of_mem hh)).mpr hhead ▸ hmono.rel_head hh

theorem le_last_of_asc {H : List Rat} {limit : Rat} (hmono : H.Pairwise (· ≤ ·)) (hlast : H.getLast? = some limit) :
    ∀ h ∈ H, h ≤ limit :=
  fun _ hh => (List.getLast_eq_iff_getLast?_eq_some (List.ne_nil_of_mem hh)).mpr hlast ▸ hmono.rel_getLast hh

/-- what the loop gives the utility it looks at (`if Q_ut_max > tol: u.set_heat_flow(Q_ut_max)`): the duty added
    to `Q_assigned` is the duty recorded, which the model's pair `(d, qA')` does not show -/
def taken (tol q : Rat) : Rat := if tol < q then q else 0

theorem taken_nonneg {tol : Rat} (htol : 0 ≤ tol) (q : Rat) : 0 ≤ taken tol q := by
  unfold taken; split_ifs with h
  exacts [le_trans htol h.le, le_rfl]

theorem taken_eq (tol q : Rat) : taken tol q = 0 ∨ taken tol q = q := by
  unfold taken; split_ifs
  exacts [Or.inr rfl, Or.inl rfl]

theorem assignLoop_cons (tol : Rat) (T H : List Rat) (isHot : Bool) (limit qA : Rat) (u : ULevel) (us : List ULevel) :
    assignLoop tol T H isHot limit qA (u :: us) =
      taken tol (maximiseUtilityDuty tol T H u isHot qA) ::
        if rabs (limit - (qA + taken tol (maximiseUtilityDuty tol T H u isHot qA))) < tol then us.map (fun _ => 0)
        else assignLoop tol T H isHot limit (qA + taken tol (maximiseUtilityDuty tol T H u isHot qA)) us := by
  rw [assignLoop, taken]
  -- in either case the recorded duty `d ::` moves out of the `if`
  by_cases hq : tol < maximiseUtilityDuty tol T H u isHot qA
  · rw [if_pos hq, if_pos hq]
    exact (apply_ite _ _ _ _).symm
  · rw [if_neg hq, if_neg hq, add_zero]
    exact (apply_ite _ _ _ _).symm

theorem assigned_le (tol : Rat) (T : List Rat) {H : List Rat} (u : ULevel) (isHot : Bool) {qA M : Rat}
    (hM : ∀ h ∈ H, h ≤ M) (hqA : qA ≤ M) : qA + taken tol (maximiseUtilityDuty tol T H u isHot qA) ≤ M := by
  rcases taken_eq tol (maximiseUtilityDuty tol T H u isHot qA) with e | e
  · rw [e, add_zero]; exact hqA
  · rw [e]; exact le_sub_iff_add_le'.mp (maximise_le tol T u isHot hM hqA)

theorem assignLoop_bounds {tol : Rat} (htol : 0 ≤ tol) (T : List Rat) {H : List Rat} (isHot : Bool) (limit : Rat) {M : Rat}
    (hM : ∀ h ∈ H, h ≤ M) (us : List ULevel) {qA : Rat} (hqA : qA ≤ M) :
      (∀ d ∈ assignLoop tol T H isHot limit qA us, 0 ≤ d) ∧ qA + (assignLoop tol T H isHot limit qA us).sum ≤ M := by
  induction us generalizing qA with
  | nil => exact ⟨fun d hd => (nomatch hd), (add_zero qA).trans_le hqA⟩
  | cons u us ih =>
    have h0 := taken_nonneg htol (maximiseUtilityDuty tol T H u isHot qA)
    have h1 := assigned_le tol T u isHot hM hqA
    rw [assignLoop_cons, List.sum_cons, ← add_assoc]
    split_ifs
    · refine ⟨List.forall_mem_cons.mpr ⟨h0, List.forall_mem_map.mpr fun _ _ => le_rfl⟩, ?_⟩
      rw [List.sum_map_zero, add_zero]; exact h1
    · obtain ⟨a, b⟩ := ih h1
      exact ⟨List.forall_mem_cons.mpr ⟨h0, a⟩, b⟩

/-- A ladder `pre ++ uc :: post` closes the allocation within `tol` as soon as `uc` takes the rest whenever more than
    `tol` is left (`hstep`).  The upper bound is `assignLoop_bounds`; below, a stop before `uc` is reached means the
    target is met within `tol`, and once `uc` is reached it takes the rest and whatever follows is non-negative. -/
theorem assignLoop_closes {tol : Rat} (htol : 0 ≤ tol) (T : List Rat) {H : List Rat} (isHot : Bool) (uc : ULevel) {limit : Rat}
    (hM : ∀ h ∈ H, h ≤ limit)
    (hstep : ∀ qA, tol < limit - qA → maximiseUtilityDuty tol T H uc isHot qA = limit - qA) (pre post : List ULevel)
    {qA : Rat} (hqA : qA ≤ limit) :
      limit - tol ≤ qA + (assignLoop tol T H isHot limit qA (pre ++ uc :: post)).sum ∧
      qA + (assignLoop tol T H isHot limit qA (pre ++ uc :: post)).sum ≤ limit := by
  refine ⟨?_, (assignLoop_bounds htol T isHot limit hM _ hqA).2⟩
  induction pre generalizing qA with
  | nil =>
    have hpos := (assignLoop_bounds htol T isHot limit hM (uc :: post) hqA).1
    rw [List.nil_append, assignLoop_cons, List.sum_cons, ← add_assoc]
    rw [assignLoop_cons] at hpos
    obtain ⟨h0, hrest⟩ := List.forall_mem_cons.mp hpos
    refine le_trans ?_ (le_add_of_nonneg_right (List.sum_nonneg hrest))
    by_cases hq : tol < limit - qA
    · rw [hstep qA hq, taken, if_pos hq, add_sub_cancel]
      exact sub_le_self limit htol
    · exact (sub_le_comm.mp (not_lt.mp hq)).trans (le_add_of_nonneg_right h0)
  | cons u pre ih =>
    rw [List.cons_append, assignLoop_cons, List.sum_cons, ← add_assoc]
    split_ifs with hstop
    · rw [List.sum_map_zero, add_zero]
      exact sub_le_comm.mp (not_lt.mp fun h => not_rabs_le_of_lt h hstop.le)
    · exact ih (assigned_le tol T u isHot hM hqA)

theorem maximise_covering {tol : Rat} (htol : 0 ≤ tol) {T H : List Rat} {u : ULevel} {isHot : Bool} {qA limit : Rat}
    (hcov : ∀ t ∈ T, 0 ≤ beyond isHot u.tt t ∧ -tol ≤ beyond isHot u.ts t)
    (hlen : T.length = H.length) (hM : ∀ h ∈ H, h ≤ limit)
    (hend : (if isHot then H.head? else H.getLast?) = some limit)
    (hz : ∃ z ∈ H, z ≠ limit) (hq : tol < limit - qA) :
    maximiseUtilityDuty tol T H u isHot qA = limit - qA := by
  obtain ⟨cell, hcell, hlim, hne⟩ := exists_limit_cell hlen hend hz
  exact maximise_takes_rest htol hM hq hcell hlim hne
    (hcov _ (List.of_mem_zip (adj_mem isHot hcell)).1).2
    fun cell' hcell' _ => (hcov _ (List.of_mem_zip (cur_mem isHot hcell')).1).1

/-- The utility need not lie past the whole segment: it is enough that its (shifted) band lies past a level `m`
    which no non-flat interval reaches with its row on the utility's side — rows beyond `m` carry no demand (on
    the heating side: hot streams supplied above the hottest cold target). -/
theorem maximise_covering_from {tol : Rat} (htol : 0 ≤ tol) {T H : List Rat} {u : ULevel} {isHot : Bool} {qA limit m : Rat}
    (hm : 0 ≤ beyond isHot u.tt m) (hts : 0 ≤ beyond isHot u.ts u.tt)
    (hstart : ∀ cell ∈ candidates.cells' (T.zip H), (adj isHot cell).2 ≠ (cur isHot cell).2 →
      0 ≤ beyond isHot m (adj isHot cell).1)
    (hlen : T.length = H.length) (hdesc : T.Pairwise (· > ·)) (hM : ∀ h ∈ H, h ≤ limit)
    (hend : (if isHot then H.head? else H.getLast?) = some limit)
    (hz : ∃ z ∈ H, z ≠ limit) (hq : tol < limit - qA) :
    maximiseUtilityDuty tol T H u isHot qA = limit - qA := by
  obtain ⟨cell, hcell, hlim, hne⟩ := exists_limit_cell hlen hend hz
  refine maximise_takes_rest htol hM hq hcell hlim hne ?_ fun cell' hcell' hne' => ?_
  · have := hstart cell hcell (by rw [hlim]; exact hne.symm)
    exact (neg_nonpos.mpr htol).trans (le_beyond_trans hts (le_beyond_trans hm this))
  · exact le_beyond_trans hm
      (le_beyond_trans (hstart cell' hcell' hne') (adj_beyond_cur isHot hlen hdesc hcell').le)

theorem exists_ne_of_end_lt {H : List Rat} {limit : Rat} {e : Option Rat} (he : e = H.head? ∨ e = H.getLast?)
    (h : ∃ z, e = some z ∧ z < limit) : ∃ z ∈ H, z ≠ limit := by
  obtain ⟨z, hz, hlt⟩ := h
  refine ⟨z, ?_, ne_of_lt hlt⟩
  rcases he with rfl | rfl
  exacts [List.mem_of_head? hz, List.mem_of_getLast? hz]

theorem huTmin_ge (cold : List Rat) : ∀ x ∈ cold, x ≤ huTmin cold := by
  unfold huTmin
  -- the code's running maximum `if m < x: m = x` is `max`
  simp only [← max_def_lt]
  exact (le_foldl_max id cold _).2

theorem cuTmax_le (hot : List Rat) : ∀ x ∈ hot, cuTmax hot ≤ x := by
  unfold cuTmax
  simp only [← min_def_lt']
  exact (foldl_min_le id hot _).2

end OP

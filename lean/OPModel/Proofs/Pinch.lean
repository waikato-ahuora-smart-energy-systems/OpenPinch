/-
  What `pinch_idx` and `pinch_temperatures` (`Model/Pinch.lean`) return, in terms of `Z tol h i`: "row `i` of the
  residual column `h` exists and is zero within `tol`".  The cold row is the hot row of the column read bottom-up
  (`coldRow_eq_hotRow_reverse`), so the model's case analysis is gone through once, for the hot row.
-/
import OPModel.Model.Pinch
import OPModel.Proofs.Basic

namespace OP

def At (p : Rat → Bool) (xs : List Rat) (i : Nat) : Prop := ∃ x, xs[i]? = some x ∧ p x = true

abbrev Z (tol : Rat) (h : List Rat) (i : Nat) : Prop := At (isZero tol) h i

theorem at_lt {p xs i} (h : At p xs i) : i < xs.length := by
  obtain ⟨x, hx, _⟩ := h
  exact (List.getElem?_eq_some_iff.mp hx).1

theorem first_some {p : Rat → Bool} {xs : List Rat} {i : Nat} (h : firstIdx p xs = some i) :
    At p xs i ∧ ∀ j, j < i → ¬ At p xs j := by
  unfold firstIdx at h
  obtain ⟨hi, hp, hn⟩ := List.findIdx?_eq_some_iff_getElem.mp h
  refine ⟨⟨xs[i], List.getElem?_eq_getElem hi, hp⟩, ?_⟩
  intro j hj ⟨x, hx, hpx⟩
  have hjl : j < xs.length := Nat.lt_trans hj hi
  rw [List.getElem?_eq_getElem hjl] at hx
  cases hx
  exact hn j hj hpx

theorem first_none {p : Rat → Bool} {xs : List Rat} (h : firstIdx p xs = none) :
    ∀ j, ¬ At p xs j := by
  unfold firstIdx at h
  intro j ⟨x, hx, hpx⟩
  have := List.findIdx?_eq_none_iff.mp h x (List.mem_of_getElem? hx)
  rw [this] at hpx
  cases hpx

theorem first_isSome {p : Rat → Bool} {xs : List Rat} {i : Nat} (h : At p xs i) :
    ∃ k, firstIdx p xs = some k := by
  cases hf : firstIdx p xs with
  | some k => exact ⟨k, rfl⟩
  | none => exact absurd h (first_none hf i)

-- `xs.length = i + k + 1`: row `i` counted from the top is row `k` counted from the bottom
theorem at_reverse {p : Rat → Bool} {xs : List Rat} {i k : Nat} (h : xs.length = i + k + 1) :
    At p xs.reverse k ↔ At p xs i := by
  unfold At
  rw [List.getElem?_reverse' (by rw [h, Nat.add_comm k])]

theorem exists_at_reverse {p xs i} (h : At p xs i) : ∃ k, xs.length = i + k + 1 ∧ At p xs.reverse k := by
  obtain ⟨k, hk⟩ := Nat.exists_eq_add_of_lt (at_lt h)
  exact ⟨k, hk, (at_reverse hk).mpr h⟩

theorem exists_at_of_reverse {p xs k} (h : At p xs.reverse k) : ∃ i, xs.length = i + k + 1 ∧ At p xs i := by
  obtain ⟨i, hi⟩ := Nat.exists_eq_add_of_lt (at_lt h)
  rw [List.length_reverse, Nat.add_comm k] at hi
  exact ⟨i, hi, (at_reverse hi).mp h⟩

theorem mirror_lt {n i j k m : Nat} (hi : n = i + k + 1) (hj : n = j + m + 1) (h : i < j) : m < k := by
  have hsum : j + m = i + k := Nat.add_right_cancel (hj.symm.trans hi)
  exact Nat.lt_of_add_lt_add_left (hsum ▸ Nat.add_lt_add_right h m)

theorem none_after_of_reverse {p : Rat → Bool} {xs : List Rat} {l k : Nat} (h : xs.length = l + k + 1)
    (hn : ∀ j, j < k → ¬ At p xs.reverse j) : ∀ j, l < j → ¬ At p xs j := by
  intro j hj hat
  obtain ⟨m, hm, hat'⟩ := exists_at_reverse hat
  exact hn m (mirror_lt h hm hj) hat'

-- `lastIdx` described as `firstIdx` is above; `coldRow_spec` goes through the reversed column and rests on neither
theorem last_some {p : Rat → Bool} {xs : List Rat} {l : Nat} (h : lastIdx p xs = some l) :
    At p xs l ∧ ∀ j, l < j → ¬ At p xs j := by
  obtain ⟨k, hf, rfl⟩ := Option.map_eq_some_iff.mp h
  obtain ⟨hk, hn⟩ := first_some hf
  obtain ⟨l, hl, hat⟩ := exists_at_of_reverse hk
  rw [hl, Nat.add_sub_cancel, Nat.add_sub_cancel]
  exact ⟨hat, none_after_of_reverse hl hn⟩

theorem last_none {p : Rat → Bool} {xs : List Rat} (h : lastIdx p xs = none) : ∀ j, ¬ At p xs j := by
  intro j hat
  obtain ⟨k, _, hk⟩ := exists_at_reverse hat
  exact first_none (Option.map_eq_none_iff.mp h) k hk

theorem any_iff_at {p : Rat → Bool} {xs : List Rat} : xs.any p = true ↔ ∃ i, At p xs i := by
  constructor
  · intro h
    obtain ⟨x, hx, hp⟩ := List.any_eq_true.mp h
    obtain ⟨i, hi⟩ := List.getElem?_of_mem hx
    exact ⟨i, x, hi, hp⟩
  · intro ⟨i, x, hx, hp⟩
    exact List.any_eq_true.mpr ⟨x, List.mem_of_getElem? hx, hp⟩

theorem all_iff_at {p : Rat → Bool} {xs : List Rat} :
    xs.all p = true ↔ ∀ i, i < xs.length → At p xs i := by
  constructor
  · intro h i hi
    exact ⟨xs[i], List.getElem?_eq_getElem hi, List.all_eq_true.mp h _ (List.getElem_mem hi)⟩
  · intro h
    apply List.all_eq_true.mpr
    intro x hx
    obtain ⟨i, hi⟩ := List.getElem?_of_mem hx
    obtain ⟨y, hy, hp⟩ := h i (List.getElem?_eq_some_iff.mp hi).1
    rw [hi] at hy; cases hy; exact hp

theorem at_not {tol : Rat} {xs : List Rat} {i : Nat} (hi : i < xs.length) :
    At (fun x => !(isZero tol x)) xs i ↔ ¬ Z tol xs i := by
  unfold Z At
  rw [List.getElem?_eq_getElem hi]
  simp only [Option.some.injEq, exists_eq_left', Bool.not_eq_true', Bool.not_eq_true]

theorem isZero_iff {tol x : Rat} : isZero tol x = true ↔ |x| < tol := by
  unfold isZero
  rw [decide_eq_true_iff, rabs_eq_abs]

theorem Z_map_iff (tol : Rat) (f : Rat → Rat) {T : List Rat} {k : Nat} (hk : k < T.length) :
    Z tol (T.map f) k ↔ |f T[k]| < tol := by
  unfold Z At
  rw [List.getElem?_map, List.getElem?_eq_getElem hk, Option.map_some]
  simp only [Option.some.injEq, exists_eq_left', isZero_iff]

theorem hotRow_spec {tol : Rat} {h : List Rat}
    (hz : ∃ i, Z tol h i) (hnz : ∃ i, i < h.length ∧ ¬ Z tol h i) :
    ∃ a : Nat, hotRow tol h = (a : Int) ∧ Z tol h a ∧
      ((¬ Z tol h 0 ∧ ∀ j, j < a → ¬ Z tol h j) ∨
       (Z tol h 0 ∧ (∀ j, j ≤ a → Z tol h j) ∧ a + 1 < h.length ∧ ¬ Z tol h (a + 1))) := by
  obtain ⟨iz, hiz⟩ := hz
  obtain ⟨inz, hinz, hnzz⟩ := hnz
  unfold hotRow
  cases hf : firstIdx (isZero tol) h with
  | none => exact absurd hiz (first_none hf iz)
  | some f =>
    obtain ⟨hfz, hfn⟩ := first_some hf
    cases f with
    | succ f =>
      -- the top row is not zero: the hot row is the first zero row
      exact ⟨f + 1, rfl, hfz, Or.inl ⟨hfn 0 f.succ_pos, hfn⟩⟩
    | zero =>
      -- the top row is zero: the hot row is the one before the first non-zero row `j`
      obtain ⟨j, hj⟩ := first_isSome ((at_not hinz).mpr hnzz)
      obtain ⟨hjnz, hjn⟩ := first_some hj
      have hjl : j < h.length := at_lt hjnz
      have hnj : ¬ Z tol h j := (at_not hjl).mp hjnz
      have hzero : ∀ k, k < j → Z tol h k := fun k hk => by
        by_contra hc
        exact hjn k hk ((at_not (Nat.lt_trans hk hjl)).mpr hc)
      cases j with
      | zero => exact absurd hfz hnj
      | succ a =>
        simp only [hj]
        exact ⟨a, by rw [Int.natCast_succ, Int.add_sub_cancel], hzero a a.lt_succ_self,
          Or.inr ⟨hfz, fun k hk => hzero k (Nat.lt_succ_of_le hk), hjl, hnj⟩⟩

theorem coldRow_eq_hotRow_reverse (tol : Rat) (h : List Rat) :
    coldRow tol h = (h.length : Int) - 1 - hotRow tol h.reverse := by
  -- both sides run the same two searches on the reversed column; what is left is integer arithmetic on `len - 1 - k`
  unfold coldRow hotRow lastIdx
  rw [List.length_reverse]
  cases hf : firstIdx (isZero tol) h.reverse with
  | none => exact (Int.sub_self _).symm
  | some k =>
    have hk : k < h.length := List.length_reverse ▸ at_lt (first_some hf).1
    simp only [Option.map_some]
    rw [Int.natCast_sub (Nat.le_sub_one_of_lt hk), Int.natCast_sub (Nat.one_le_of_lt hk), Int.natCast_one]
    cases k with
    | zero =>
      rw [if_neg (by rw [Int.natCast_zero, Int.sub_zero]; exact Int.lt_irrefl _)]
      cases firstIdx (fun x => !(isZero tol x)) h.reverse with
      | none => exact (Int.sub_self _).symm
      | some j => exact (sub_sub_sub_cancel_right _ _ _).symm
    | succ f => exact if_pos (Int.sub_lt_self _ (Int.natCast_pos.mpr f.succ_pos))

theorem coldRow_spec {tol : Rat} {h : List Rat}
    (hz : ∃ i, Z tol h i) (hnz : ∃ i, i < h.length ∧ ¬ Z tol h i) :
    ∃ b : Nat, coldRow tol h = (b : Int) ∧ Z tol h b ∧
      ((¬ Z tol h (h.length - 1) ∧ ∀ j, b < j → ¬ Z tol h j) ∨
       (Z tol h (h.length - 1) ∧ (∀ j, b ≤ j → j < h.length → Z tol h j) ∧ 1 ≤ b ∧ ¬ Z tol h (b - 1))) := by
  -- `hotRow_spec` of the column read bottom-up: row `k` there is row `i` here when `i + k + 1 = h.length`,
  -- so the first zero row becomes the last and row `0` becomes row `h.length - 1`
  have hz' : ∃ k, Z tol h.reverse k := by
    obtain ⟨i, hi⟩ := hz
    obtain ⟨k, _, hk⟩ := exists_at_reverse hi
    exact ⟨k, hk⟩
  have hnz' : ∃ k, k < h.reverse.length ∧ ¬ Z tol h.reverse k := by
    obtain ⟨i, hi, hn⟩ := hnz
    obtain ⟨k, _, hk⟩ := exists_at_reverse ((at_not hi).mpr hn)
    exact ⟨k, at_lt hk, (at_not (at_lt hk)).mp hk⟩
  obtain ⟨a, ha, hza, hcl⟩ := hotRow_spec hz' hnz'
  obtain ⟨b, hb, hzb⟩ := exists_at_of_reverse hza
  have h0 : Z tol h.reverse 0 ↔ Z tol h (h.length - 1) :=
    at_reverse (Nat.sub_add_cancel (hb ▸ Nat.succ_pos _)).symm
  refine ⟨b, ?_, hzb, hcl.imp ?_ ?_⟩
  · rw [coldRow_eq_hotRow_reverse, ha, hb, Int.natCast_succ, Int.add_sub_cancel, Int.natCast_add, Int.add_sub_cancel]
  · rintro ⟨hn0, hlt⟩
    exact ⟨fun hc => hn0 (h0.mpr hc), none_after_of_reverse hb hlt⟩
  · rintro ⟨hz0, hle, hlen, hn⟩
    obtain ⟨c, hc, hnc⟩ := exists_at_of_reverse ((at_not hlen).mpr hn)
    -- the non-zero row `a + 1` of the reversed column is row `c` here: `b + a + 1 = h.length = c + (a + 1) + 1`
    have hbc : b + a = c + 1 + a := (Nat.add_right_cancel (hb.symm.trans hc)).trans (Nat.add_right_comm c a 1)
    obtain rfl : b = c + 1 := Nat.add_right_cancel hbc
    refine ⟨h0.mp hz0, fun j hj hjl => ?_, c.succ_pos, (at_not (at_lt hnc)).mp hnc⟩
    obtain ⟨k, hk⟩ := Nat.exists_eq_add_of_lt hjl
    exact (at_reverse hk).mp (hle k (Nat.le_of_lt_succ (mirror_lt hc hk hj)))

theorem pinchIdx_of_mixed {tol : Rat} {h : List Rat}
    (hz : ∃ i, Z tol h i) (hnz : ∃ i, i < h.length ∧ ¬ Z tol h i) :
    pinchIdx tol h = ⟨hotRow tol h, coldRow tol h, decide (hotRow tol h ≤ coldRow tol h)⟩ := by
  have hany : h.any (isZero tol) = true := any_iff_at.mpr hz
  have hall : h.all (isZero tol) = false := by
    obtain ⟨i, hi, hn⟩ := hnz
    exact Bool.eq_false_iff.mpr fun hh => hn (all_iff_at.mp hh i hi)
  simp only [pinchIdx, hany, hall, Bool.not_false, Bool.and_self, if_true]

theorem pinchIdx_of_not_mixed {tol : Rat} {h : List Rat}
    (hc : (¬ ∃ i, Z tol h i) ∨ ∀ i, i < h.length → Z tol h i) :
    pinchIdx tol h = ⟨(h.length : Int) - 1, 0, decide ((h.length : Int) - 1 ≤ 0)⟩ := by
  have hbr : (h.any (isZero tol) && !(h.all (isZero tol))) = false := by
    rcases hc with h1 | h2
    · rw [Bool.eq_false_iff.mpr fun hh => h1 (any_iff_at.mp hh), Bool.false_and]
    · rw [all_iff_at.mpr h2, Bool.not_true, Bool.and_false]
  simp only [pinchIdx, hbr, Bool.false_eq_true, if_false]

theorem pyIndex_natCast (xs : List Rat) (k : Nat) : pyIndex xs (k : Int) = xs[k]? := by
  unfold pyIndex
  simp only [if_neg (Int.not_lt.mpr (Int.natCast_nonneg k)), Int.toNat_natCast, Int.natCast_nonneg, true_and,
    Int.ofNat_lt]
  split
  · rfl
  · rename_i h
    exact (List.getElem?_eq_none (Nat.le_of_not_lt h)).symm

theorem pyIndex_mem {xs : List Rat} {i : Int} {a : Rat} (h : pyIndex xs i = some a) : a ∈ xs := by
  unfold pyIndex at h
  exact List.mem_of_getElem? (Option.ite_none_right_eq_some.mp h).2

theorem pinchTemperatures_eq {tol : Rat} {T h : List Rat} {a b : Nat}
    (ha : (pinchIdx tol h).rowH = (a : Int)) (hb : (pinchIdx tol h).rowC = (b : Int))
    (hv : (pinchIdx tol h).valid = true) (hal : a < T.length) (hbl : b < T.length) :
    pinchTemperatures tol T h = .ok (some (T[a], T[b])) := by
  simp only [pinchTemperatures, hv, if_true, ha, hb, pyIndex_natCast, List.getElem?_eq_getElem hal,
    List.getElem?_eq_getElem hbl]

end OP

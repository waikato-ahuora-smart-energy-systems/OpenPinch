/-
  C07 helpers about monotone columns: cumulative sums of one-signed increments (the load profiles)
  and the running minimum of a column (the specification of `H_net_np`), which is its greatest
  non-increasing minorant.
-/
import OPModel.Model.Pockets
import Mathlib.Data.List.Chain
import Mathlib.Algebra.Order.Field.Rat

namespace OP

theorem cumsumFrom_chain (R : Rat → Rat → Prop) : ∀ (xs : List Rat), (∀ x ∈ xs, ∀ a, R a (a + x)) →
    ∀ acc, List.IsChain R (acc :: cumsumFrom acc xs) := by
  intro xs
  induction xs with
  | nil => exact fun _ _ => List.isChain_singleton _
  | cons x xs ih =>
    exact fun h acc => List.isChain_cons_cons.mpr ⟨h x List.mem_cons_self acc,
      ih (fun z hz => h z (List.mem_cons_of_mem _ hz)) (acc + x)⟩

theorem cumsumFrom_mono (xs : List Rat) (h : ∀ x ∈ xs, 0 ≤ x) (acc : Rat) : (cumsumFrom acc xs).Pairwise (· ≤ ·) :=
  (List.pairwise_cons.mp (cumsumFrom_chain (· ≤ ·) xs (fun x hx _ => le_add_of_nonneg_right (h x hx)) acc).pairwise).2

theorem cumsumFrom_anti (xs : List Rat) (h : ∀ x ∈ xs, x ≤ 0) (acc : Rat) : (cumsumFrom acc xs).Pairwise (· ≥ ·) :=
  (List.pairwise_cons.mp (cumsumFrom_chain (· ≥ ·) xs (fun x hx _ => add_le_of_nonpos_right (h x hx)) acc).pairwise).2

theorem runMinFrom_spec (m : Rat) (t : List Rat) :
    List.Forall₂ (· ≤ ·) (runMinFrom m t) t ∧ (∀ x ∈ runMinFrom m t, x ≤ m) ∧
      (runMinFrom m t).Pairwise (· ≥ ·) := by
  induction t generalizing m with
  | nil => exact ⟨List.Forall₂.nil, fun _ hx => (List.not_mem_nil hx).elim, List.Pairwise.nil⟩
  | cons h t ih =>
    obtain ⟨h1, h2, h3⟩ := ih (min m h)
    simp only [runMinFrom]
    exact ⟨List.Forall₂.cons (min_le_right m h) h1,
      List.forall_mem_cons.mpr ⟨min_le_left m h, fun x hx => le_trans (h2 x hx) (min_le_left m h)⟩,
      List.Pairwise.cons h2 h3⟩

theorem runMinFrom_greatest (m : Rat) {t g : List Rat} (hg : List.Forall₂ (· ≤ ·) g t)
    (hmono : g.Pairwise (· ≥ ·)) (hm : ∀ x ∈ g, x ≤ m) : List.Forall₂ (· ≤ ·) g (runMinFrom m t) := by
  induction t generalizing m g with
  | nil => cases hg; exact List.Forall₂.nil
  | cons h t ih =>
    cases hg with
    | cons hah hrest =>
      rename_i a g'
      simp only [runMinFrom]
      have ha : a ≤ min m h := le_min (hm a List.mem_cons_self) hah
      refine List.Forall₂.cons ha (ih (min m h) hrest (List.pairwise_cons.mp hmono).2 ?_)
      intro x hx
      exact le_trans ((List.pairwise_cons.mp hmono).1 x hx) ha

end OP

/- The run segmentation of a GCC series (`Model/Graphs.lean`): `slices_spec` is the one invariant of the outer loop. -/
import OPModel.Model.Graphs
import Mathlib.Data.List.Chain

namespace OP

/-- the candidates of `segEnd`'s backward search are `n, n - 1, …, 1` -/
theorem countdown_succ (n : Nat) :
    (List.range (n + 1)).map (n + 1 - ·) = (n + 1) :: (List.range n).map (n - ·) := by
  rw [List.range_succ_eq_map, List.map_cons, List.map_map]
  exact congrArg _ (List.map_congr_left fun k _ => Nat.add_sub_add_right n 1 k)

theorem find?_countdown_gt {p : Nat → Bool} {m n : Nat} (hp : p (m + 1) = true) (h : m < n) :
    ∃ r, ((List.range n).map (n - ·)).find? p = some r ∧ m < r := by
  induction n with
  | zero => exact absurd h (Nat.not_lt_zero m)
  | succ n ih =>
    rw [countdown_succ]
    by_cases hn : p (n + 1) = true
    · exact ⟨n + 1, List.find?_cons_of_pos hn, h⟩
    · rw [List.find?_cons_of_neg hn]
      exact ih ((Nat.lt_succ_iff_lt_or_eq.mp h).resolve_right fun he => hn (he ▸ hp))

/-- The inner loop: it moves forward, not past `e`, over steps of class `cls` only, and with enough fuel it stops for
    one of its own two reasons (the end is reached, or the next step has another class). -/
theorem runEnd_spec (vtol : Rat) (x : Array Rat) (cls : SegClass) {e : Nat} :
    ∀ fuel {nj}, nj ≤ e →
      nj ≤ runEnd vtol x cls e fuel nj ∧ runEnd vtol x cls e fuel nj ≤ e ∧
      (∀ k, nj ≤ k → k < runEnd vtol x cls e fuel nj → classify vtol (diffAt x k) = cls) ∧
      (e - nj ≤ fuel → runEnd vtol x cls e fuel nj = e ∨
        classify vtol (diffAt x (runEnd vtol x cls e fuel nj)) ≠ cls) := by
  intro fuel
  induction fuel with
  | zero =>
    exact fun h => ⟨le_refl _, h, fun _ hk1 hk2 => absurd hk2 (Nat.not_lt.mpr hk1),
      fun hf => Or.inl (Nat.le_antisymm h (Nat.le_of_sub_eq_zero (Nat.le_zero.mp hf)))⟩
  | succ fuel ih =>
    intro nj h
    -- the loop goes on exactly when both tests pass
    rw [runEnd, ← ite_and]
    by_cases h1 : nj < e ∧ classify vtol (diffAt x nj) = cls
    · rw [if_pos h1]
      obtain ⟨a, b, c, d⟩ := ih h1.1
      refine ⟨Nat.le_of_succ_le a, b, fun k hk1 hk2 => ?_, fun hf => d (Nat.sub_le_sub_right hf 1)⟩
      rcases Nat.eq_or_lt_of_le hk1 with rfl | hk
      · exact h1.2
      · exact c k hk hk2
    · rw [if_neg h1]
      exact ⟨le_refl _, h, fun _ hk1 hk2 => absurd hk2 (Nat.not_lt.mpr hk1),
        fun _ => (not_and_or.mp h1).imp_left fun h' => Nat.le_antisymm h (Nat.not_lt.mp h')⟩

/-- the runs tile `[j, e]`: each starts where the previous one ended, none is empty -/
def Tiles : List (SegClass × Nat × Nat) → Nat → Nat → Prop
  | [], j, e => j = e
  | (_, a, b) :: rest, j, e => a = j ∧ a < b ∧ Tiles rest b e

theorem slices_of_lt {vtol : Rat} {x : Array Rat} {e j : Nat} (fuel : Nat) (hj : j < e) :
    slices vtol x e (fuel + 1) j =
      (classify vtol (diffAt x j), j, runEnd vtol x (classify vtol (diffAt x j)) e (e - j) (j + 1)) ::
        slices vtol x e fuel (runEnd vtol x (classify vtol (diffAt x j)) e (e - j) (j + 1)) := by
  rw [slices, if_pos hj]

theorem slices_of_not_lt {vtol : Rat} {x : Array Rat} {e j : Nat} (hj : ¬ j < e) (fuel : Nat) :
    slices vtol x e fuel j = [] := by
  cases fuel with
  | zero => rfl
  | succ fuel => rw [slices, if_neg hj]

/-- The last clause, the first run has the class of the step at `j`, is what makes maximality a local matter. -/
theorem slices_spec (vtol : Rat) (x : Array Rat) {e : Nat} :
    ∀ {fuel j}, j ≤ e → e - j ≤ fuel →
      Tiles (slices vtol x e fuel j) j e ∧
      (∀ t ∈ slices vtol x e fuel j, ∀ k, t.2.1 ≤ k → k < t.2.2 → classify vtol (diffAt x k) = t.1) ∧
      List.IsChain (fun a b => a.1 ≠ b.1) (slices vtol x e fuel j) ∧
      ∀ t ∈ (slices vtol x e fuel j).head?, t.1 = classify vtol (diffAt x j) := by
  intro fuel
  induction fuel with
  | zero =>
    intro j h1 h2
    exact ⟨Nat.le_antisymm h1 (Nat.le_of_sub_eq_zero (Nat.le_zero.mp h2)), fun _ h => absurd h List.not_mem_nil,
      List.IsChain.nil, fun _ h => by cases h⟩
  | succ fuel ih =>
    intro j h1 h2
    by_cases hj : j < e
    · rw [slices_of_lt fuel hj]
      obtain ⟨hlo, hhi, hcls, hstop⟩ :=
        runEnd_spec vtol x (classify vtol (diffAt x j)) (e - j) hj
      generalize runEnd vtol x (classify vtol (diffAt x j)) e (e - j) (j + 1) = nj at hlo hhi hcls hstop ⊢
      generalize hc : classify vtol (diffAt x j) = cls at hcls hstop ⊢
      have hfuel : e - nj ≤ fuel := (Nat.sub_le_sub_left hlo e).trans (Nat.sub_le_sub_right h2 1)
      obtain ⟨t1, t2, t3, t4⟩ := ih hhi hfuel
      refine ⟨⟨rfl, hlo, t1⟩, ?_, List.isChain_cons.mpr ⟨fun t ht => ?_, t3⟩, fun t ht => ?_⟩
      · intro t ht k hk1 hk2
        rcases List.mem_cons.mp ht with rfl | ht
        · rcases Nat.eq_or_lt_of_le hk1 with rfl | hk
          · exact hc
          · exact hcls k hk hk2
        · exact t2 t ht k hk1 hk2
      · -- the run stopped before `e` (else no run follows), so on a step of another class
        rw [t4 t ht]
        rcases hstop (Nat.sub_le_sub_left (Nat.le_succ j) e) with rfl | hne
        · rw [slices_of_not_lt (Nat.lt_irrefl _)] at ht; cases ht
        · exact hne.symm
      · cases ht; rfl
    · rw [slices_of_not_lt hj]
      exact ⟨Nat.le_antisymm h1 (Nat.not_lt.mp hj), fun _ h => absurd h List.not_mem_nil, List.IsChain.nil,
        fun _ h => by cases h⟩

end OP

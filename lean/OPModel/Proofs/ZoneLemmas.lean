/-
  C10 helpers for the zone tree built from the labels alone (`Model/Zones.lean`, first half).  The label pre-pass
  creates exactly the non-empty prefixes of the labels, so its nodes are closed under non-empty prefixes
  (`PrefClosed`); the builder keeps `BInv` (the paths are the label nodes followed by the generated leaves, which
  are distinct, not label nodes, and sit directly below a label node or the root).  On any such tree the upward
  collection counts a stream placed in a zone without sub-zones once in every zone above it and nowhere else
  (`content_count`; conservation with and without a user tree are its two instances).
-/
import OPModel.Model.Zones
import OPModel.Proofs.Basic
import Std.Data.String.ToNat
import Mathlib.Algebra.BigOperators.Group.List.Basic

namespace OP

theorem mem_addNode (paths : List ZPath) (q x : ZPath) : x ∈ addNode paths q ↔ x ∈ paths ∨ x = q := by
  unfold addNode
  split
  · rename_i h
    exact ⟨Or.inl, fun hx => hx.elim id fun e => e ▸ List.contains_iff_mem.mp h⟩
  · rw [List.mem_append, List.mem_singleton]

theorem nodup_addNode (paths : List ZPath) (q : ZPath) (h : paths.Nodup) : (addNode paths q).Nodup := by
  unfold addNode
  split
  · exact h
  · rename_i hq
    exact List.Nodup.append h (List.nodup_singleton q)
      (List.disjoint_singleton.mpr fun hm => hq (List.contains_iff_mem.mpr hm))

theorem mem_foldl_iff {α β : Type} (f : List α → β → List α) (g : β → List α)
    (hf : ∀ acc b x, x ∈ f acc b ↔ x ∈ acc ∨ x ∈ g b) (bs : List β) (acc : List α) (x : α) :
    x ∈ bs.foldl f acc ↔ x ∈ acc ∨ ∃ b ∈ bs, x ∈ g b := by
  induction bs generalizing acc with
  | nil => exact (or_iff_left fun ⟨_, hb, _⟩ => List.not_mem_nil hb).symm
  | cons b bs ih => rw [List.foldl_cons, ih, hf, or_assoc, List.exists_mem_cons_iff]

theorem mem_addLabel (paths : List ZPath) (l x : ZPath) : x ∈ addLabel paths l ↔ x ∈ paths ∨ x ∈ prefixesOf l := by
  rw [addLabel, mem_foldl_iff addNode (fun q => [q]) (fun acc q x => by rw [mem_addNode, List.mem_singleton])]
  simp only [List.mem_singleton, exists_eq_right']

theorem nodup_addLabel (paths : List ZPath) (l : ZPath) (h : paths.Nodup) : (addLabel paths l).Nodup :=
  List.foldlRecOn (prefixesOf l) addNode h fun acc hacc q _ => nodup_addNode acc q hacc

theorem nodup_prePass (labels : List ZPath) : (prePass labels).Nodup :=
  List.foldlRecOn labels addLabel List.nodup_nil fun acc hacc l _ => nodup_addLabel acc l hacc

theorem length_lt_of_ne {z q : ZPath} (h : z <+: q) (hne : q ≠ z) : z.length < q.length :=
  Nat.lt_of_le_of_ne h.length_le fun e => hne (h.eq_of_length e).symm

theorem exists_take_succ_iff (p x : ZPath) : (∃ k, k < p.length ∧ x = p.take (k + 1)) ↔ x <+: p ∧ x ≠ [] := by
  constructor
  · rintro ⟨k, hk, rfl⟩
    exact ⟨List.take_prefix _ _, List.ne_nil_of_length_pos
      (by rw [List.length_take]; exact Nat.lt_min.mpr ⟨k.succ_pos, Nat.zero_lt_of_lt hk⟩)⟩
  · rintro ⟨hp, hne⟩
    obtain ⟨a, t, rfl⟩ := List.exists_cons_of_ne_nil hne
    exact ⟨t.length, hp.length_le, List.prefix_iff_eq_take.mp hp⟩

theorem mem_prefixesOf (l x : ZPath) : x ∈ prefixesOf l ↔ x <+: l ∧ x ≠ [] := by
  rw [← exists_take_succ_iff]
  simp only [prefixesOf, List.mem_map, List.mem_range]
  exact exists_congr fun k => and_congr_right fun _ => eq_comm

theorem mem_prePass (labels : List ZPath) (x : ZPath) :
    x ∈ prePass labels ↔ ∃ l ∈ labels, x <+: l ∧ x ≠ [] := by
  rw [prePass, mem_foldl_iff addLabel prefixesOf mem_addLabel]
  simp only [List.not_mem_nil, false_or, mem_prefixesOf]

theorem nonempty_of_mem_prePass (labels : List ZPath) (p : ZPath) (hp : p ∈ prePass labels) : p ≠ [] := by
  obtain ⟨_, _, _, hne⟩ := (mem_prePass labels p).mp hp
  exact hne

theorem label_mem_prePass {labels : List ZPath} {l : ZPath} (hl : l ∈ labels) (hne : l ≠ []) : l ∈ prePass labels :=
  (mem_prePass labels l).mpr ⟨l, hl, List.prefix_refl l, hne⟩

/-- nodes of the tree are closed under taking non-empty prefixes -/
def PrefClosed (L : List ZPath) : Prop := ∀ p ∈ L, ∀ k, k < p.length → p.take (k + 1) ∈ L

theorem prefClosed_iff (L : List ZPath) : PrefClosed L ↔ ∀ p ∈ L, ∀ x, x <+: p → x ≠ [] → x ∈ L := by
  constructor
  · intro h p hp x hx hne
    obtain ⟨k, hk, rfl⟩ := (exists_take_succ_iff p x).mpr ⟨hx, hne⟩
    exact h p hp k hk
  · intro h p hp k hk
    obtain ⟨hx, hne⟩ := (exists_take_succ_iff p _).mp ⟨k, hk, rfl⟩
    exact h p hp _ hx hne

theorem prefClosed_prePass (labels : List ZPath) : PrefClosed (prePass labels) := by
  rw [prefClosed_iff]
  intro p hp x hx hne
  obtain ⟨l, hl, hpl, -⟩ := (mem_prePass labels p).mp hp
  exact (mem_prePass labels x).mpr ⟨l, hl, hx.trans hpl, hne⟩

theorem mem_kidsOf (paths : List ZPath) (z q : ZPath) :
    q ∈ kidsOf paths z ↔ q ∈ paths ∧ q.length = z.length + 1 ∧ z <+: q := by
  unfold kidsOf isPre
  simp only [List.mem_filter, Bool.and_eq_true, beq_iff_eq, List.isPrefixOf_iff_prefix]

theorem take_succ_mem_kidsOf {paths : List ZPath} (hcl : PrefClosed paths) {z q : ZPath} (hq : q ∈ paths)
    (hpre : z <+: q) (hlen : z.length < q.length) : q.take (z.length + 1) ∈ kidsOf paths z :=
  (mem_kidsOf paths z _).mpr ⟨hcl q hq z.length hlen, List.length_take_of_le hlen,
    List.prefix_take_iff.mpr ⟨hpre, Nat.le_succ _⟩⟩

theorem kidsOf_eq_nil_iff {paths : List ZPath} (hcl : PrefClosed paths) (z : ZPath) :
    kidsOf paths z = [] ↔ ∀ q ∈ paths, z <+: q → q = z := by
  constructor
  · intro hk q hq hpre
    by_contra hne
    have := take_succ_mem_kidsOf hcl hq hpre (length_lt_of_ne hpre hne)
    rw [hk] at this
    exact List.not_mem_nil this
  · intro h
    rw [List.eq_nil_iff_forall_not_mem]
    intro k hk
    obtain ⟨hm, hl, hp⟩ := (mem_kidsOf paths z k).mp hk
    rw [h k hm hp] at hl
    exact absurd hl (Nat.lt_succ_self _).ne

theorem oName_inj {a b : Nat} (h : oName a = oName b) : a = b :=
  Nat.repr_injective ((String.append_right_inj _).mp h)

theorem freshO_eq_find (paths : List ZPath) (comps : ZPath) (fuel c : Nat) :
    freshO paths comps fuel c = (List.range' c fuel).find? fun n => !paths.contains (comps ++ [oName n]) := by
  induction fuel generalizing c with
  | zero => rfl
  | succ n ih =>
    rw [freshO, ih, List.range'_succ, List.find?_cons]
    cases paths.contains (comps ++ [oName c]) <;> rfl

theorem freshO_some (paths : List ZPath) (comps : ZPath) (fuel c : Nat) (h : paths.length < fuel) :
    ∃ r, freshO paths comps fuel c = some r ∧ comps ++ [oName r] ∉ paths := by
  obtain ⟨r, hr⟩ := exists_find_free (fun n => comps ++ [oName n]) paths _ c fuel
    (fun _ _ hab => oName_inj (List.singleton_inj.mp (List.append_cancel_left hab)))
    (fun n hn => List.contains_iff_mem.mp hn) h
  exact ⟨r, (freshO_eq_find ..).trans hr, by simpa using List.find?_some hr⟩

structure BInv (L : List ZPath) (st : ZBuild) : Prop where
  paths_eq : st.paths = L ++ st.zones
  nodup : st.zones.Nodup
  fresh : ∀ z ∈ st.zones, z ∉ L
  parent : ∀ z ∈ st.zones, ∃ comps name, z = comps ++ [name] ∧ (comps = [] ∨ comps ∈ L)

theorem binv_init (L : List ZPath) : BInv L { paths := L } :=
  ⟨(List.append_nil _).symm, List.nodup_nil, fun _ hz => absurd hz List.not_mem_nil,
    fun _ hz => absurd hz List.not_mem_nil⟩

theorem placeStream_spec {L : List ZPath} {st : ZBuild} {comps : ZPath} (hc : comps = [] ∨ comps ∈ L)
    (h : BInv L st) :
    ∃ st' name, placeStream st comps = .ok st' ∧ BInv L st' ∧ st'.zones = st.zones ++ [comps ++ [name]] := by
  obtain ⟨c, hf, hnot⟩ := freshO_some st.paths comps (st.paths.length + 1) (counterOf st.counters comps + 1)
    (Nat.lt_succ_self _)
  rw [h.paths_eq, List.mem_append, not_or] at hnot
  refine ⟨_, oName c, by rw [placeStream, hf], ⟨?_, ?_, ?_, ?_⟩, rfl⟩
  · simp only [h.paths_eq, List.append_assoc]
  · exact List.Nodup.append h.nodup (List.nodup_singleton _) (List.disjoint_singleton.mpr hnot.2)
  · exact List.forall_mem_append.mpr ⟨h.fresh, List.forall_mem_singleton.mpr hnot.1⟩
  · exact List.forall_mem_append.mpr ⟨h.parent, List.forall_mem_singleton.mpr ⟨comps, oName c, rfl, hc⟩⟩

theorem placeAll_spec {L : List ZPath} {ls : List ZPath} (hls : ∀ l ∈ ls, l = [] ∨ l ∈ L) {st : ZBuild} (h : BInv L st) :
    ∃ st' names, placeAll ls st = .ok st' ∧ BInv L st' ∧ names.length = ls.length ∧
      st'.zones = st.zones ++ List.zipWith (fun l n => l ++ [n]) ls names := by
  induction ls generalizing st with
  | nil => exact ⟨st, [], rfl, h, rfl, (List.append_nil _).symm⟩
  | cons l ls ih =>
    obtain ⟨st1, name, h1, hinv1, hz1⟩ := placeStream_spec (hls l List.mem_cons_self) h
    obtain ⟨st', names, h2, hinv', hlen, hz'⟩ := ih (fun l' hl' => hls l' (List.mem_cons_of_mem _ hl')) hinv1
    refine ⟨st', name :: names, by rw [placeAll, h1]; exact h2, hinv',
      by rw [List.length_cons, hlen, List.length_cons], ?_⟩
    rw [hz', hz1, List.append_assoc, List.zipWith_cons_cons, List.singleton_append]

theorem buildZones_spec (labels : List ZPath) :
    ∃ st names, buildZones labels = .ok st ∧ BInv (prePass labels) st ∧ names.length = labels.length ∧
      st.zones = List.zipWith (fun l n => l ++ [n]) labels names :=
  placeAll_spec (fun l hl => (eq_or_ne l []).imp_right (label_mem_prePass hl)) (binv_init _)

theorem buildZones_inv {labels : List ZPath} {st : ZBuild} (h : buildZones labels = .ok st) :
    ∃ names, BInv (prePass labels) st ∧ names.length = labels.length ∧
      st.zones = List.zipWith (fun l n => l ++ [n]) labels names := by
  obtain ⟨st', names, h', hinv, hlen, hz⟩ := buildZones_spec labels
  obtain rfl : st' = st := Except.ok.inj (h'.symm.trans h)
  exact ⟨names, hinv, hlen, hz⟩

theorem binv_prefix_mem {L : List ZPath} {st : ZBuild} (hL : PrefClosed L) (h : BInv L st) {q x : ZPath}
    (hq : q ∈ st.paths) (hx : x <+: q) (hne : x ≠ []) (hxq : x ≠ q) : x ∈ L := by
  rw [prefClosed_iff] at hL
  rw [h.paths_eq] at hq
  rcases List.mem_append.mp hq with hqL | hqZ
  · exact hL q hqL x hx hne
  · obtain ⟨c, n, rfl, hc⟩ := h.parent q hqZ
    rcases List.prefix_concat_iff.mp hx with e | hxc
    · exact absurd e hxq
    · rcases hc with rfl | hc
      · exact absurd (List.prefix_nil.mp hxc) hne
      · exact hL c hc x hxc hne

theorem binv_closed {L : List ZPath} {st : ZBuild} (hL : PrefClosed L) (h : BInv L st) : PrefClosed st.paths := by
  rw [prefClosed_iff]
  intro q hq x hx hne
  by_cases hxq : x = q
  · rwa [hxq]
  · rw [h.paths_eq]
    exact List.mem_append_left _ (binv_prefix_mem hL h hq hx hne hxq)

/-- a generated leaf has no sub-zones: were it a proper prefix of a path, it would be a label node -/
theorem binv_leaf {L : List ZPath} {st : ZBuild} (hL : PrefClosed L) (h : BInv L st) {z : ZPath}
    (hz : z ∈ st.zones) : kidsOf st.paths z = [] := by
  rw [kidsOf_eq_nil_iff (binv_closed hL h)]
  intro q hq hpre
  by_contra hne
  obtain ⟨comps, name, rfl, -⟩ := h.parent z hz
  exact h.fresh _ hz (binv_prefix_mem hL h hq hpre (List.concat_ne_nil _ _) (Ne.symm hne))

theorem binv_paths_nodup {L : List ZPath} {st : ZBuild} (hL : L.Nodup) (h : BInv L st) : st.paths.Nodup := by
  rw [h.paths_eq]
  exact List.Nodup.append hL h.nodup fun a haL haZ => h.fresh a haZ haL

/-- Kept about any `α`: on `ZPath` the `BEq` instance in the library's sum lemma is not the one `List.Nodup.count`
    finds. -/
theorem sum_map_indicator {α : Type} [DecidableEq α] {ks : List α} (hnd : ks.Nodup) (k0 : α) :
    (ks.map fun k => if k = k0 then (1 : ℕ) else 0).sum = if k0 ∈ ks then 1 else 0 := by
  rw [List.sum_map_eq_nsmul_single k0 _ fun k hne _ => if_neg hne, if_pos rfl, hnd.count,
    Nat.nsmul_eq_mul, Nat.mul_one]

theorem count_direct {zones : List ZPath} {i : Nat} {zi : ZPath} (hzi : zones[i]? = some zi) (z : ZPath) :
    (direct zones z).count i = if zi = z then 1 else 0 := by
  obtain ⟨hi, rfl⟩ := List.getElem?_eq_some_iff.mp hzi
  unfold direct
  rw [List.Nodup.count (List.Nodup.filter _ List.nodup_range)]
  simp only [List.mem_filter, List.mem_range, hi, true_and, beq_iff_eq, getElem!_pos zones i hi]

theorem content_count {paths zones : List ZPath} (hnd : paths.Nodup) (hcl : PrefClosed paths)
    {i : Nat} {zi : ZPath} (hzi : zones[i]? = some zi) (hmem : zi ∈ paths) (hleaf : kidsOf paths zi = []) :
    ∀ fuel z, (∀ q ∈ paths, q.length < z.length + fuel) →
      (content paths zones fuel z).count i = if z <+: zi then 1 else 0 := by
  intro fuel
  induction fuel with
  | zero =>
    intro z hb
    rw [content, List.count_nil, if_neg fun hp => Nat.not_le_of_lt (hb _ hmem) hp.length_le]
  | succ fuel ih =>
    intro z hb
    rw [content]
    by_cases hk : (kidsOf paths z).isEmpty = true
    · -- `z` has no sub-zones: it holds the stream iff it is the stream's zone
      rw [if_pos hk, count_direct hzi z]
      exact if_congr ⟨fun e => e ▸ List.prefix_refl _,
        (kidsOf_eq_nil_iff hcl z).mp (List.isEmpty_iff.mp hk) _ hmem⟩ rfl rfl
    · -- of the children of `z`, only the one on the way to the stream's zone can hold the stream
      have hkid : ∀ k ∈ kidsOf paths z, (content paths zones fuel k).count i =
          if k = zi.take (z.length + 1) then 1 else 0 := by
        intro k hkm
        have hlen := ((mem_kidsOf paths z k).mp hkm).2.1
        rw [ih k fun q hq => by rw [hlen, Nat.add_right_comm]; exact hb q hq, ← hlen]
        exact if_congr List.prefix_iff_eq_take rfl rfl
      -- and that one is a child of `z` iff `z` is above the stream's zone: the two differ, as `z` has a child
      have hne : zi ≠ z := fun he => hk (List.isEmpty_iff.mpr (he ▸ hleaf))
      have hiff : zi.take (z.length + 1) ∈ kidsOf paths z ↔ z <+: zi :=
        ⟨fun hm => ((mem_kidsOf paths z _).mp hm).2.2.trans (List.take_prefix _ _),
          fun hp => take_succ_mem_kidsOf hcl hmem hp (length_lt_of_ne hp hne)⟩
      rw [if_neg hk, List.count_flatMap, Function.comp_def, List.map_congr_left hkid,
        sum_map_indicator (ks := kidsOf paths z) (hnd.filter _)]
      simp only [hiff]

end OP

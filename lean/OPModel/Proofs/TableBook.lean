/-
  C08 helpers: the ΔT / ΔH bookkeeping of a problem table survives `insert_temperature_interval`.

  `Book cfg d r` — row `r` has ΔT = d (numeric), every heat-capacity cell numeric, and every ΔH cell
  equal to ΔT·CP.  Below a first row of temperature `a` the rows are `LinkedFrom cfg a` exactly when
  the table is a `List.IsChain (LinkR cfg)`, the form in which C08 states the result.

  Every block of the rebuilt table is described with the rows that follow it as a parameter
  (`LinkedFrom … (block ++ bot)` from `LinkedFrom … bot`), so the temperature at which a block ends
  is only ever read off the list of temperatures it was built from, and the blocks are put together
  by applying one description to the next.
-/
import OPModel.Proofs.TableLemmas
import OPModel.Proofs.TableRequests
import OPModel.Proofs.Basic

namespace OP

/-- the row keeps its books: `ΔT = d` and `ΔH = ΔT · CP` for every (CP, ΔH) pair of columns -/
def Book (cfg : TblCfg) (d : Rat) (r : Row) : Prop :=
  r.get cfg.dI = some d ∧ ∀ p ∈ cfg.pairs, ∃ c, r.get p.1 = some c ∧ r.get p.2 = some (d * c)

def RowLen (cfg : TblCfg) (r : Row) : Prop := r.length = cfg.nCols

def Link (cfg : TblCfg) (r1 r2 : Row) : Prop :=
  ∃ t1 t2, r1.get cfg.tI = some t1 ∧ r2.get cfg.tI = some t2 ∧ Book cfg (t1 - t2) r2

/-- a row of the table's width with temperature `t` and numeric heat capacities; nothing is said of its `ΔT`, `ΔH` -/
def Plain (cfg : TblCfg) (t : Rat) (r : Row) : Prop :=
  RowLen cfg r ∧ r.get cfg.tI = some t ∧ ∀ p ∈ cfg.pairs, ∃ c, r.get p.1 = some c

/-- rows that hang below a row of temperature `prevT`: each has the gap to the row above it as ΔT and keeps its books -/
def LinkedFrom (cfg : TblCfg) : Rat → List Row → Prop
  | _, [] => True
  | prevT, r :: rest => ∃ t, r.get cfg.tI = some t ∧ Book cfg (prevT - t) r ∧ RowLen cfg r ∧ LinkedFrom cfg t rest

/-- a "zero row": plain, ΔT = d, every heat capacity and enthalpy change 0 (what edge rows are) -/
def ZRow (cfg : TblCfg) (t d : Rat) (r : Row) : Prop :=
  Plain cfg t r ∧ r.get cfg.dI = some d ∧ ∀ p ∈ cfg.pairs, r.get p.1 = some 0 ∧ r.get p.2 = some 0

/-- relation between a row and the row below it in a table that keeps its books -/
def LinkR (cfg : TblCfg) (ra rb : Row) : Prop :=
  ∃ ta tb, ra.get cfg.tI = some ta ∧ rb.get cfg.tI = some tb ∧ Book cfg (ta - tb) rb ∧ RowLen cfg rb

/-- the invariant of a table that keeps its books: a zero row on top, every later row linked to the row above it -/
def ZLinked (cfg : TblCfg) (rows : List Row) : Prop :=
  ∃ h tl t d, rows = h :: tl ∧ ZRow cfg t d h ∧ LinkedFrom cfg t tl

theorem Plain.len {cfg : TblCfg} {t : Rat} {r : Row} (h : Plain cfg t r) : r.length = cfg.nCols := h.1

theorem Plain.temp {cfg : TblCfg} {t : Rat} {r : Row} (h : Plain cfg t r) : r.get cfg.tI = some t := h.2.1

theorem Plain.cp {cfg : TblCfg} {t : Rat} {r : Row} (h : Plain cfg t r) : ∀ p ∈ cfg.pairs, ∃ c, r.get p.1 = some c := h.2.2

theorem Book.numeric {cfg : TblCfg} {d : Rat} {r : Row} (h : Book cfg d r) :
    ∀ p ∈ cfg.pairs, (∃ c, r.get p.1 = some c) ∧ ∃ c, r.get p.2 = some c := by
  intro p hp
  obtain ⟨c, h1, h2⟩ := h.2 p hp
  exact ⟨⟨c, h1⟩, ⟨_, h2⟩⟩

theorem Book.cp {cfg : TblCfg} {d : Rat} {r : Row} (h : Book cfg d r) : ∀ p ∈ cfg.pairs, ∃ c, r.get p.1 = some c :=
  fun p hp => (h.numeric p hp).1

theorem ZRow.plain {cfg : TblCfg} {t d : Rat} {r : Row} (h : ZRow cfg t d r) : Plain cfg t r := h.1

theorem ZRow.book {cfg : TblCfg} {t d : Rat} {r : Row} (h : ZRow cfg t d r) : Book cfg d r :=
  ⟨h.2.1, fun p hp => ⟨0, (h.2.2 p hp).1, (h.2.2 p hp).2.trans (congrArg some (mul_zero d).symm)⟩⟩

theorem ZRow.numeric {cfg : TblCfg} {t d : Rat} {r : Row} (h : ZRow cfg t d r) :
    ∀ p ∈ cfg.pairs, (∃ c, r.get p.1 = some c) ∧ ∃ c, r.get p.2 = some c :=
  h.book.numeric

theorem LinkedFrom.cons {cfg : TblCfg} {a t : Rat} {r : Row} {rest : List Row} (hp : Plain cfg t r)
    (hb : Book cfg (a - t) r) (h : LinkedFrom cfg t rest) : LinkedFrom cfg a (r :: rest) :=
  ⟨t, hp.temp, hb, hp.len, h⟩

theorem ZLinked.cons {cfg : TblCfg} {t d : Rat} {h : Row} {tl : List Row} (hz : ZRow cfg t d h)
    (hl : LinkedFrom cfg t tl) : ZLinked cfg (h :: tl) :=
  ⟨h, tl, t, d, rfl, hz, hl⟩

theorem LinkedFrom.temps {cfg : TblCfg} {rest : List Row} : ∀ {a : Rat}, LinkedFrom cfg a rest →
    ∃ ts, List.Forall₂ (fun r t => r.get cfg.tI = some t) rest ts := by
  induction rest with
  | nil => exact fun _ => ⟨[], .nil⟩
  | cons r rest ih =>
    rintro a ⟨t, ht, -, -, hrest⟩
    obtain ⟨ts, hts⟩ := ih hrest
    exact ⟨t :: ts, .cons ht hts⟩

theorem LinkedFrom.book_of_mem {cfg : TblCfg} {rest : List Row} : ∀ {r0 : Row} {a d0 : Rat}, Book cfg d0 r0 →
    LinkedFrom cfg a rest → ∀ r ∈ r0 :: rest, ∃ d, Book cfg d r := by
  induction rest with
  | nil => exact fun hb _ r hr => ⟨_, List.mem_singleton.mp hr ▸ hb⟩
  | cons r1 rest ih =>
    rintro r0 a d0 hb0 ⟨t, -, hb, -, hrest⟩ r hr
    rcases List.mem_cons.mp hr with rfl | hr
    · exact ⟨_, hb0⟩
    · exact ih hb hrest r hr

theorem recomputeDH_of_book {cfg : TblCfg} {d : Rat} {r : Row} (h : Book cfg d r) : recomputeDH cfg r = r :=
  List.foldlRecOn (motive := (· = r)) cfg.pairs _ rfl fun r' hr' p hp => by
    obtain ⟨c, h1, h2⟩ := h.2 p hp
    rw [hr', h.1, h1]
    show r.put p.2 (some (d * c)) = r
    rw [← h2, Row.put_get]

section layout

variable {cfg : TblCfg} (ok : CfgOK cfg) (pk : PairsOK cfg)
include ok pk

theorem Plain.put_dI {t : Rat} {r : Row} (h : Plain cfg t r) (v : Cell) : Plain cfg t (r.put cfg.dI v) :=
  ⟨(Row.length_put r cfg.dI v).trans h.len, (Row.get_put r cfg.dI cfg.tI v (Ne.symm ok.td)).trans h.temp, fun p hp =>
    (Row.get_put r cfg.dI p.1 v (Ne.symm (pk.cpPlain p hp).2.1)).symm ▸ h.cp p hp⟩

theorem recomputeDH_book {t d : Rat} {r : Row} (h : Plain cfg t r) (hd : r.get cfg.dI = some d) :
    Plain cfg t (recomputeDH cfg r) ∧ Book cfg d (recomputeDH cfg r) := by
  have hcp : ∀ p ∈ cfg.pairs, (recomputeDH cfg r).get p.1 = r.get p.1 := fun p hp =>
    recomputeDH_get cfg r p.1 (fun q hq => pk.dhNotCp q hq p hp)
  refine ⟨⟨(recomputeDH_length cfg r).trans h.len, (recomputeDH_get cfg r cfg.tI fun p hp => (ok.dh p hp).2.1).trans h.temp,
    fun p hp => (hcp p hp).symm ▸ h.cp p hp⟩, (recomputeDH_get cfg r cfg.dI fun p hp => (ok.dh p hp).2.2).trans hd, fun p hp => ?_⟩
  obtain ⟨c, hc⟩ := h.cp p hp
  refine ⟨c, (hcp p hp).trans hc, ?_⟩
  rw [recomputeDH_get_dh cfg ok pk h.len hp, hd, hc]
  rfl

theorem setGap_book {t : Rat} {r : Row} (d : Rat) (h : Plain cfg t r) :
    Plain cfg t (recomputeDH cfg (r.put cfg.dI (some d))) ∧ Book cfg d (recomputeDH cfg (r.put cfg.dI (some d))) :=
  recomputeDH_book ok pk (h.put_dI ok pk (some d)) (Row.get_put_self r cfg.dI _ (ok.dLt.trans_eq h.len.symm))

theorem ZRow.put_dI {t d : Rat} {r : Row} (h : ZRow cfg t d r) (d' : Rat) : ZRow cfg t d' (r.put cfg.dI (some d')) := by
  refine ⟨h.plain.put_dI ok pk _, Row.get_put_self r cfg.dI _ (ok.dLt.trans_eq h.plain.len.symm), fun p hp => ?_⟩
  rw [Row.get_put r cfg.dI p.1 _ (Ne.symm (pk.cpPlain p hp).2.1), Row.get_put r cfg.dI p.2 _ (Ne.symm (ok.dh p hp).2.2)]
  exact h.2.2 p hp

theorem midRow_plain (tol : Rat) (up : Row) {lo : Row} (upT : Rat) {loT : Rat} (t : Rat) (hlo : Plain cfg loT lo) :
    Plain cfg t (midRow cfg tol up lo upT loT t) :=
  ⟨midRow_length cfg tol up lo upT loT t, midRow_get_tI cfg ok tol up lo upT loT t, fun p hp => by
    obtain ⟨a1, a2, a3⟩ := pk.cpPlain p hp
    rw [midRow_get_other cfg tol up lo upT loT t (pk.cpLt p hp) a1 a2 a3]
    exact hlo.cp p hp⟩

theorem edgeRow_zrow (nb : Row) (t dt : Rat)
    (hnb : ∀ p ∈ cfg.pairs, (∃ c, nb.get p.1 = some c) ∧ ∃ c, nb.get p.2 = some c) :
    ZRow cfg t dt (edgeRow cfg nb t dt) := by
  have h0 : ∀ p ∈ cfg.pairs, (edgeRow cfg nb t dt).get p.1 = some 0 ∧ (edgeRow cfg nb t dt).get p.2 = some 0 := by
    intro p hp
    obtain ⟨⟨c1, hc1⟩, ⟨c2, hc2⟩⟩ := hnb p hp
    obtain ⟨a1, a2, a3⟩ := pk.cpPlain p hp
    obtain ⟨b3, b1, b2⟩ := ok.dh p hp
    rw [edgeRow_get_other cfg nb t dt (pk.cpLt p hp) a1 a2 a3, edgeRow_get_other cfg nb t dt (pk.dhLt p hp) b1 b2 b3, hc1, hc2]
    exact ⟨rfl, rfl⟩
  exact ⟨⟨edgeRow_length cfg nb t dt, edgeRow_get_tI cfg ok nb t dt, fun p hp => ⟨0, (h0 p hp).1⟩⟩,
    edgeRow_get_dI cfg ok nb t dt, h0⟩

theorem withGaps_linked {bot : List Row} {f : Rat → Row} {ts : List Rat} {tl : Rat} (hf : ∀ t ∈ ts, Plain cfg t (f t)) :
    ∀ prevT : Rat, (prevT :: ts).getLast? = some tl → LinkedFrom cfg tl bot →
      LinkedFrom cfg prevT (withGaps cfg prevT (ts.map fun t => (t, f t)) ++ bot) := by
  induction ts with
  | nil =>
    intro prevT htl hbot
    obtain rfl : prevT = tl := Option.some.inj htl
    exact hbot
  | cons t ts ih =>
    intro prevT htl hbot
    obtain ⟨g1, g2⟩ := setGap_book ok pk (prevT - t) (hf t List.mem_cons_self)
    exact LinkedFrom.cons g1 g2 (ih (fun y hy => hf y (List.mem_cons_of_mem _ hy)) t
      (List.getLast?_cons_cons.symm.trans htl) hbot)

theorem midBlock_linked (tol : Rat) {up lo : Row} {upT loT d : Rat}
    (ts : List Rat) (hupb : Book cfg d up) (hlo : Plain cfg loT lo) (hlob : Book cfg (upT - loT) lo) :
    ∃ news lo' d', midBlock cfg tol up lo upT loT ts = (up, news, lo') ∧ Plain cfg loT lo' ∧ Book cfg d' lo' ∧
      ∀ bot, LinkedFrom cfg loT bot → LinkedFrom cfg upT (news ++ lo' :: bot) := by
  unfold midBlock
  cases ts using List.reverseRecOn with
  | nil => exact ⟨[], lo, _, rfl, hlo, hlob, fun bot hbot => LinkedFrom.cons hlo hlob hbot⟩
  | append_singleton ts lastT =>
    rw [List.getLast?_concat, recomputeDH_of_book hupb]
    obtain ⟨g1, g2⟩ := setGap_book ok pk (lastT - loT) hlo
    exact ⟨_, _, _, rfl, g1, g2, fun bot hbot =>
      withGaps_linked ok pk (fun t _ => midRow_plain ok pk tol up upT t hlo) upT
        (List.getLast?_concat (l := upT :: ts)) (LinkedFrom.cons g1 g2 hbot)⟩

theorem walk_linked (tol : Rat) (mid : List Rat) {bot rest : List Row} {ts : List Rat} {tl : Rat}
    (hts : List.Forall₂ (fun r t => r.get cfg.tI = some t) rest ts) :
    ∀ {up : Row} {upT d : Rat}, (upT :: ts).getLast? = some tl → Book cfg d up → LinkedFrom cfg upT rest →
      LinkedFrom cfg tl bot →
      ∃ tail, walk cfg tol mid up upT (rest.zip ts) = up :: tail ∧ LinkedFrom cfg upT (tail ++ bot) := by
  induction hts with
  | nil =>
    intro up upT d htl _ _ hbot
    obtain rfl : upT = tl := Option.some.inj htl
    exact ⟨[], rfl, hbot⟩
  | @cons lo loT rest ts hlo _ ih =>
    intro up upT d htl hb hl hbot
    obtain ⟨t, ht, hlob, hlen, hrest⟩ := hl
    obtain rfl : t = loT := Option.some.inj (ht.symm.trans hlo)
    obtain ⟨news, lo', d', hm, hp', hb', hlink⟩ := midBlock_linked ok pk tol (bucket tol upT t mid) hb
      ⟨hlen, ht, hlob.cp⟩ hlob
    obtain ⟨tail, hw, htail⟩ := ih (List.getLast?_cons_cons.symm.trans htl) hb' hrest hbot
    refine ⟨news ++ lo' :: tail, ?_, ?_⟩
    · simp only [List.zip_cons_cons, walk_cons, hm, hw, List.cons_append]
    · rw [List.append_assoc]; exact hlink _ htail

theorem edgeChain_linked_down : ∀ {ts : List Rat} {nb : Row} {prevT : Rat},
    (∀ p ∈ cfg.pairs, (∃ c, nb.get p.1 = some c) ∧ ∃ c, nb.get p.2 = some c) →
    (prevT :: ts).Pairwise (fun a b => b < a) → LinkedFrom cfg prevT (edgeChain cfg nb prevT ts) := by
  intro ts
  induction ts with
  | nil => intro _ _ _ _; trivial
  | cons t ts ih =>
    intro nb prevT hnb hdesc
    have hlt : t < prevT := (List.pairwise_cons.mp hdesc).1 t List.mem_cons_self
    have hgap : rabs (t - prevT) = prevT - t := by
      rw [rabs_sub_comm, rabs_sub_of_le hlt.le]
    have he := edgeRow_zrow ok pk nb t (rabs (t - prevT)) hnb
    exact LinkedFrom.cons he.plain (hgap ▸ he.book) (ih he.numeric (List.pairwise_cons.mp hdesc).2)

omit pk in
theorem shiftDT_cons_edgeChain (nb : Row) {prevT t : Rat} (h : prevT ≤ t) (ts : List Rat) :
    shiftDT cfg (nb :: edgeChain cfg nb prevT (t :: ts)) =
      nb.put cfg.dI (some (t - prevT)) :: shiftDT cfg (edgeChain cfg nb prevT (t :: ts)) := by
  have e : (edgeRow cfg nb t (rabs (t - prevT))).get cfg.dI = some (t - prevT) := by
    rw [edgeRow_get_dI cfg ok, rabs_sub_of_le h]
  exact congrArg (fun v => nb.put cfg.dI v :: shiftDT cfg (edgeChain cfg nb prevT (t :: ts))) e

theorem shiftDT_edgeChain_linked : ∀ {ts : List Rat} {nb : Row} {prevT d : Rat} {bot : List Row}, ZRow cfg prevT d nb →
    (prevT :: ts).Pairwise (fun a b => a < b) → LinkedFrom cfg prevT bot →
    ZLinked cfg ((shiftDT cfg (nb :: edgeChain cfg nb prevT ts)).reverse ++ bot) := by
  intro ts
  induction ts with
  | nil => intro nb prevT d bot hz _ hbot; exact .cons (hz.put_dI ok pk 0) hbot
  | cons t ts ih =>
    intro nb prevT d bot hz hasc hbot
    have hlt : prevT < t := (List.pairwise_cons.mp hasc).1 t List.mem_cons_self
    have hz' := hz.put_dI ok pk (t - prevT)
    -- `nb` takes the gap to the first new row and moves under the rows still to come
    rw [shiftDT_cons_edgeChain ok nb hlt.le ts, List.reverse_cons, List.append_assoc]
    exact ih (edgeRow_zrow ok pk nb t (rabs (t - prevT)) hz.numeric) (List.pairwise_cons.mp hasc).2
      (LinkedFrom.cons hz'.plain hz'.book hbot)

theorem topBlock_linked {nb : Row} {nbT d0 : Rat} (hz : ZRow cfg nbT d0 nb) (tops : List Rat)
    (hdesc : tops.Pairwise (fun a b => b < a)) (habove : ∀ y ∈ tops, nbT < y) :
    ∃ top nb' d, topBlock cfg nb nbT tops = (top, nb') ∧ ZRow cfg nbT d nb' ∧
      ∀ bot, LinkedFrom cfg nbT bot → ZLinked cfg (top ++ nb' :: bot) := by
  cases hrev : tops.reverse with
  | nil => exact ⟨_, _, d0, topBlock_of_reverse_nil cfg nb nbT hrev, hz, fun bot hbot => .cons hz hbot⟩
  | cons a0 asc =>
    have hasc : (nbT :: a0 :: asc).Pairwise (fun a b => a < b) := by
      rw [← hrev]
      exact List.pairwise_cons.mpr ⟨fun y hy => habove y (List.mem_reverse.mp hy), List.pairwise_reverse.mpr hdesc⟩
    have hlt : nbT < a0 := (List.pairwise_cons.mp hasc).1 a0 List.mem_cons_self
    have hz' := hz.put_dI ok pk (a0 - nbT)
    cases asc with
    | nil =>
      exact ⟨_, _, _, topBlock_of_reverse_singleton cfg nb nbT hrev, hz', fun bot hbot =>
        .cons (edgeRow_zrow ok pk nb a0 _ hz.numeric) (LinkedFrom.cons hz'.plain hz'.book hbot)⟩
    | cons a1 asc =>
      refine ⟨_, _, _, topBlock_of_reverse_cons_cons cfg nb nbT hrev, hz', fun bot hbot => ?_⟩
      -- the re-based old top row followed by the shifted rows is the shift of all of them
      have e := shiftDT_edgeChain_linked ok pk hz hasc hbot
      rwa [shiftDT_cons_edgeChain ok nb hlt.le _, List.reverse_cons, List.append_assoc] at e

/-- The walk and the bottom block.  The walk starts from `up`, the first row as the top block left it; the bottom
    block is built from the ORIGINAL last row, which is `r0` itself when the table has one row: hence both. -/
theorem body_linked (tol : Rat) (mid : List Rat) {bots : List Rat} {r0 up : Row} {rest : List Row} {ts : List Rat}
    {t0 d0 d : Rat} (hts : List.Forall₂ (fun r t => r.get cfg.tI = some t) rest ts)
    (hb0 : Book cfg d0 r0) (hl : LinkedFrom cfg t0 rest) (hup : Book cfg d up)
    (hbots : ((t0 :: ts).getLast (List.cons_ne_nil _ _) :: bots).Pairwise (fun a b => b < a)) :
    ∃ tail, walk cfg tol mid up t0 (rest.zip ts) ++ bottomBlock cfg ((r0 :: rest).getLast (List.cons_ne_nil _ _))
        ((t0 :: ts).getLast (List.cons_ne_nil _ _)) bots = up :: tail ∧ LinkedFrom cfg t0 tail := by
  obtain ⟨dl, hlast⟩ := LinkedFrom.book_of_mem hb0 hl _ (List.getLast_mem (List.cons_ne_nil r0 rest))
  obtain ⟨tail, hw, htail⟩ := walk_linked ok pk tol mid hts (List.getLast?_eq_some_getLast _) hup hl
    (edgeChain_linked_down ok pk hlast.numeric hbots)
  exact ⟨_, by rw [hw]; rfl, htail⟩

theorem insertTemps_zlinked {tol : Rat} (htol : 0 ≤ tol) {rows : List Row} {vals : List Rat} (h : ZLinked cfg rows)
    {out : List Row} {n : Nat} (he : insertTemps cfg tol rows vals = .ok (out, n)) : ZLinked cfg out := by
  obtain ⟨r0, rest, t0, d0, rfl, hz0, hl⟩ := h
  obtain ⟨ts, hts⟩ := hl.temps
  obtain ⟨tops, mid, bots, hdesc, htops, hbots, rfl⟩ := insertTemps_shape htol hz0.plain.temp hts he
  obtain ⟨top, r0', d, htb, hz, htop⟩ := topBlock_linked ok pk hz0 tops hdesc (fun y hy => (htops y hy).1)
  obtain ⟨tail, hw, htail⟩ := body_linked ok pk tol mid hts hz0.book hl hz.book hbots
  rw [assemble, htb, List.append_assoc, hw]
  exact htop tail htail

end layout

theorem chain_of_linked (cfg : TblCfg) : ∀ (rows : List Row) (h : Row) (a : Rat), h.get cfg.tI = some a →
    LinkedFrom cfg a rows → List.IsChain (LinkR cfg) (h :: rows) := by
  intro rows
  induction rows with
  | nil => intro h a _ _; exact List.isChain_singleton h
  | cons r rows ih =>
    intro h a ha hl
    obtain ⟨t, ht, hb, hlen, hrest⟩ := hl
    rw [List.isChain_cons_cons]
    exact ⟨⟨a, t, ha, ht, hb, hlen⟩, ih r t ht hrest⟩

theorem linked_of_chain (cfg : TblCfg) : ∀ (rows : List Row) (h : Row) (a : Rat), h.get cfg.tI = some a →
    List.IsChain (LinkR cfg) (h :: rows) → LinkedFrom cfg a rows := by
  intro rows
  induction rows with
  | nil => intro _ _ _ _; trivial
  | cons r rows ih =>
    intro h a ha hc
    rw [List.isChain_cons_cons] at hc
    obtain ⟨⟨ta, tb, h1, h2, h3, h4⟩, hrest⟩ := hc
    rw [ha] at h1
    cases h1
    exact ⟨tb, h2, h3, h4, ih r tb h2 hrest⟩

end OP

/-
  Lemmas about `Model/Curves.lean`.  Ramer–Douglas–Peucker: the farthest-point scan is a running-maximum fold, the
  recursion over ranges yields a chain of neighbours (`Cov`), and for a point lying coordinatewise between the chord
  ends (every point of a monotone profile) a bound on the cross product bounds the distance from the chord *segment*.
  `clean_composite_curve`: each step only removes points, and the middle loop keeps exactly the points that are
  `OffChord`.
-/
import OPModel.Model.Curves
import OPModel.Proofs.Basic
import Mathlib.Data.List.Chain
import Mathlib.Tactic.LinearCombination

namespace OP

-- the library's `mul_self_nonneg` on `Rat`: a generic lemma searches its instances again at each use below
theorem rat_mul_self_nonneg (x : Rat) : 0 ≤ x * x := mul_self_nonneg x

theorem len2_nonneg (a b : P2) : 0 ≤ len2 a b :=
  Rat.add_nonneg (rat_mul_self_nonneg _) (rat_mul_self_nonneg _)

/-- "Point `i` is within `eps` of the chord `a`–`b`", in squared form (no square root):
    `|cross| / len ≤ eps  ⇔  cross² ≤ eps²·len²`. -/
def Within (pts : Array P2) (eps : Rat) (a b i : Nat) : Prop :=
  crossZ pts[a]! pts[b]! pts[i]! * crossZ pts[a]! pts[b]! pts[i]! ≤ eps * eps * len2 pts[a]! pts[b]!

/-- `a` and `b` are neighbours in the output: in order, and every original point strictly between
    them is within `eps` of their chord. -/
def Cov (pts : Array P2) (eps : Rat) (a b : Nat) : Prop :=
  a < b ∧ ∀ i, a < i → i < b → Within pts eps a b i

theorem foldl_argmax {α : Type} (f : α → Rat) (g : α → Nat) {ks : List α} {acc r : Nat × Rat}
    (hr : ks.foldl (fun acc k => if acc.2 < f k then (g k, f k) else acc) acc = r) :
    (r = acc ∨ ∃ k ∈ ks, r = (g k, f k)) ∧ acc.2 ≤ r.2 ∧ ∀ k ∈ ks, f k ≤ r.2 := by
  induction ks generalizing acc with
  | nil => cases hr; exact ⟨Or.inl rfl, le_refl _, fun k hk => absurd hk List.not_mem_nil⟩
  | cons k ks ih =>
    rw [List.foldl_cons] at hr
    by_cases hlt : acc.2 < f k
    · rw [if_pos hlt] at hr
      obtain ⟨h1, h2, h3⟩ := ih hr
      refine ⟨Or.inr ?_, le_trans (le_of_lt hlt) h2, List.forall_mem_cons.mpr ⟨h2, h3⟩⟩
      rcases h1 with h1 | ⟨k', hk', h1⟩
      · exact ⟨k, List.mem_cons_self, h1⟩
      · exact ⟨k', List.mem_cons_of_mem _ hk', h1⟩
    · rw [if_neg hlt] at hr
      obtain ⟨h1, h2, h3⟩ := ih hr
      exact ⟨h1.imp_right fun ⟨k', hk', h⟩ => ⟨k', List.mem_cons_of_mem _ hk', h⟩, h2,
        List.forall_mem_cons.mpr ⟨le_trans (not_lt.mp hlt) h2, h3⟩⟩

theorem farthest_spec {pts : Array P2} {s e : Nat} {r : Nat × Rat} (hr : farthest pts s e = r) :
    (r = (s, 0) ∨ ∃ i, s < i ∧ i < e ∧ r = (i, rabs (crossZ pts[s]! pts[e]! pts[i]!))) ∧
    ∀ i, s < i → i < e → rabs (crossZ pts[s]! pts[e]! pts[i]!) ≤ r.2 := by
  obtain ⟨h1, _, h3⟩ := foldl_argmax (fun k => rabs (crossZ pts[s]! pts[e]! pts[s + 1 + k]!)) (s + 1 + ·) hr
  constructor
  · exact h1.imp_right fun ⟨k, hk, h⟩ =>
      ⟨s + 1 + k, Nat.lt_add_right k (Nat.lt_succ_self s), Nat.add_lt_of_lt_sub' (List.mem_range.mp hk), h⟩
  · intro i hsi hie
    obtain ⟨k, rfl⟩ := Nat.exists_eq_add_of_le hsi
    exact h3 k (List.mem_range.mpr ((Nat.lt_sub_iff_add_lt' (b := s + 1)).mpr hie))

theorem cov_succ (pts : Array P2) (eps : Rat) (a : Nat) : Cov pts eps a (a + 1) :=
  ⟨Nat.lt_succ_self a, fun _ h1 h2 => absurd (Nat.le_of_lt_succ h2) (Nat.not_le.mpr h1)⟩

theorem rdpRange_chain (pts : Array P2) (eps : Rat) {fuel s e : Nat} (hse : s < e) (hf : e - s ≤ fuel) :
    List.IsChain (Cov pts eps) (s :: rdpRange pts eps fuel s e ++ [e]) := by
  induction fuel generalizing s e with
  | zero => exact absurd (Nat.sub_pos_of_lt hse) (Nat.not_lt.mpr hf)
  | succ fuel ih =>
    rw [rdpRange]
    by_cases h1 : e ≤ s + 1
    · rw [if_pos h1]
      obtain rfl : e = s + 1 := Nat.le_antisymm h1 hse
      exact List.isChain_pair.mpr (cov_succ pts eps s)
    · rw [if_neg h1]
      by_cases h2 : len2 pts[s]! pts[e]! = 0
      · rw [if_pos h2]
        -- every index from `s` to `e` is kept
        have : s :: (List.range (e - s - 1)).map (s + 1 + ·) ++ [e] = List.range' s (e - s - 1 + 1 + 1) := by
          rw [List.range'_succ, List.range'_1_concat, List.range'_eq_map_range, Nat.sub_sub, Nat.add_sub_of_le hse,
            List.cons_append]
        rw [this]
        exact (List.isChain_range' s _ 1).imp fun a b (h : b = a + 1) => h ▸ cov_succ pts eps a
      · rw [if_neg h2]
        rcases hF : farthest pts s e with ⟨fi, fd⟩
        obtain ⟨hidx, hmax⟩ := farthest_spec hF
        simp only
        by_cases h3 : eps * eps * len2 pts[s]! pts[e]! < fd * fd
        · rw [if_pos h3]
          rcases hidx with h0 | ⟨i, hsi, hie, hi⟩
          · -- nothing exceeded the start value 0, and 0 does not exceed `eps² · len²`
            cases h0
            exact absurd h3 (not_lt.mpr ((mul_zero (0 : Rat)).le.trans
              (Rat.mul_nonneg (rat_mul_self_nonneg eps) (len2_nonneg pts[s]! pts[e]!))))
          · cases hi
            rw [List.cons_append, List.append_assoc, List.append_assoc]
            -- both halves are shorter than `e - s`
            exact List.isChain_split.mpr
              ⟨ih hsi (Nat.le_of_lt_succ ((Nat.sub_lt_sub_right hsi.le hie).trans_le hf)),
                ih hie (Nat.le_of_lt_succ ((Nat.sub_lt_sub_left hse hsi).trans_le hf))⟩
        · rw [if_neg h3]
          refine List.isChain_pair.mpr ⟨hse, fun i hsi hie => le_trans ?_ (not_lt.mp h3)⟩
          rw [← rabs_mul_self]
          exact mul_self_le_mul_self (rabs_nonneg _) (hmax i hsi hie)

theorem rdp_of_two_le (pts : Array P2) (eps : Rat) (h : 2 ≤ pts.size) :
    rdp pts eps = 0 :: rdpRange pts eps pts.size 0 (pts.size - 1) ++ [pts.size - 1] := by
  unfold rdp
  rw [if_neg (by omega), if_neg (by omega)]
  rfl

/-- `d` lies between `0` and `l`, whichever way `l` points. -/
def Btw (d l : Rat) : Prop := (0 ≤ d ∧ d ≤ l) ∨ (l ≤ d ∧ d ≤ 0)

theorem Btw.mul_nonneg {d l : Rat} (h : Btw d l) : 0 ≤ d * l := by
  rcases h with ⟨h1, h2⟩ | ⟨h1, h2⟩
  · exact Rat.mul_nonneg h1 (le_trans h1 h2)
  · exact mul_nonneg_of_nonpos_of_nonpos h2 (le_trans h1 h2)

theorem Btw.mul_le {d l : Rat} (h : Btw d l) : d * l ≤ l * l := by
  rcases h with ⟨h1, h2⟩ | ⟨h1, h2⟩
  · exact Rat.mul_le_mul_of_nonneg_right h2 (le_trans h1 h2)
  · exact mul_le_mul_of_nonpos_right h1 (le_trans h1 h2)

theorem Btw.eq_zero {d : Rat} (h : Btw d 0) : d = 0 := by
  rcases h with ⟨h1, h2⟩ | ⟨h1, h2⟩
  · exact le_antisymm h2 h1
  · exact le_antisymm h2 h1

/-- A vector `d` lying coordinatewise between `0` and the chord vector `l` projects inside the chord, and its
    squared distance from that foot times `|l|²` is `cross²` (Lagrange's identity). -/
theorem foot_within {lx ly dx dy eps : Rat} (hx : Btw dx lx) (hy : Btw dy ly)
    (h : (lx * dy - ly * dx) * (lx * dy - ly * dx) ≤ eps * eps * (lx * lx + ly * ly)) :
    ∃ t : Rat, 0 ≤ t ∧ t ≤ 1 ∧ (dx - t * lx) * (dx - t * lx) + (dy - t * ly) * (dy - t * ly) ≤ eps * eps := by
  have hD : 0 ≤ lx * lx + ly * ly := Rat.add_nonneg (rat_mul_self_nonneg lx) (rat_mul_self_nonneg ly)
  refine ⟨(dx * lx + dy * ly) / (lx * lx + ly * ly), div_nonneg (Rat.add_nonneg hx.mul_nonneg hy.mul_nonneg) hD,
    div_le_one_of_le₀ (add_le_add hx.mul_le hy.mul_le) hD, ?_⟩
  generalize ht : (dx * lx + dy * ly) / (lx * lx + ly * ly) = t
  rcases hD.eq_or_lt with hD | hD
  · -- the chord is a point, and `d = 0`
    obtain ⟨rfl, rfl⟩ := mul_self_add_mul_self_eq_zero.mp hD.symm
    rw [hx.eq_zero, hy.eq_zero, mul_zero, sub_zero, mul_zero, add_zero]
    exact rat_mul_self_nonneg eps
  · have ht' : t * (lx * lx + ly * ly) = dx * lx + dy * ly := ((div_eq_iff hD.ne').mp ht).symm
    refine le_of_mul_le_mul_right (le_of_eq_of_le ?_ h) hD
    linear_combination (t * (lx * lx + ly * ly) - (dx * lx + dy * ly)) * ht'

theorem btw_sub {a p b : Rat} (h : (a ≤ p ∧ p ≤ b) ∨ (b ≤ p ∧ p ≤ a)) : Btw (p - a) (b - a) :=
  h.imp (fun h => ⟨sub_nonneg.mpr h.1, sub_le_sub_right h.2 a⟩) (fun h => ⟨sub_le_sub_right h.1 a, sub_nonpos.mpr h.2⟩)

theorem within_segment {a b p : P2} {eps : Rat}
    (hx : (a.1 ≤ p.1 ∧ p.1 ≤ b.1) ∨ (b.1 ≤ p.1 ∧ p.1 ≤ a.1))
    (hy : (a.2 ≤ p.2 ∧ p.2 ≤ b.2) ∨ (b.2 ≤ p.2 ∧ p.2 ≤ a.2))
    (h : crossZ a b p * crossZ a b p ≤ eps * eps * len2 a b) :
    ∃ t : Rat, 0 ≤ t ∧ t ≤ 1 ∧
      (p.1 - (a.1 + t * (b.1 - a.1))) * (p.1 - (a.1 + t * (b.1 - a.1))) +
      (p.2 - (a.2 + t * (b.2 - a.2))) * (p.2 - (a.2 + t * (b.2 - a.2))) ≤ eps * eps := by
  obtain ⟨t, h0, h1, ht⟩ := foot_within (btw_sub hx) (btw_sub hy) h
  refine ⟨t, h0, h1, ?_⟩
  rwa [sub_add_eq_sub_sub, sub_add_eq_sub_sub]

/-- the test of the middle loop: the middle point is a turning point of a vertical run, or lies more than
    `tol` (in `y`) off the chord through its two neighbours -/
def OffChord (tol : Rat) (p1 p2 p3 : Rat × Rat) : Prop :=
  if p1.1 = p3.1 then p1.1 ≠ p2.1
  else tol < rabs (p2.2 - (p1.2 + (p3.2 - p1.2) * (p2.1 - p1.1) / (p3.1 - p1.1)))

theorem keepInterior_of_off {tol : Rat} {p1 p2 p3 : Rat × Rat} {rest : List (Rat × Rat)}
    (h : OffChord tol p1 p2 p3) :
    keepInterior tol (p1 :: p2 :: p3 :: rest) = p2 :: keepInterior tol (p2 :: p3 :: rest) := by
  unfold OffChord at h
  rw [keepInterior]
  split_ifs at h with h1
  · simp only [if_pos h1, if_pos h]
  · simp only [if_neg h1, if_pos h]

theorem keepInterior_of_not_off {tol : Rat} {p1 p2 p3 : Rat × Rat} {rest : List (Rat × Rat)}
    (h : ¬ OffChord tol p1 p2 p3) :
    keepInterior tol (p1 :: p2 :: p3 :: rest) = keepInterior tol (p2 :: p3 :: rest) := by
  unfold OffChord at h
  rw [keepInterior]
  split_ifs at h with h1
  · simp only [if_pos h1, if_neg h]
  · simp only [if_neg h1, if_neg h]

/-- `kept` of `cleanCurve` (the first point, what the middle loop keeps, the last point) is a sublist of the input. -/
theorem cons_keepInterior_concat_sublist (tol : Rat) {first last : Rat × Rat} {l : List (Rat × Rat)}
    (hf : l.head? = some first) (hl : l.getLast? = some last) (h2 : 2 ≤ l.length) :
    (first :: keepInterior tol l ++ [last]).Sublist l := by
  induction l generalizing first with
  | nil => cases hf
  | cons p1 l ih =>
    obtain rfl : p1 = first := Option.some.inj hf
    obtain _ | ⟨p2, _ | ⟨p3, rest⟩⟩ := l
    · exact absurd h2 (Nat.not_succ_le_self 1)
    · cases hl; exact List.Sublist.refl _
    · have ih : (p2 :: keepInterior tol (p2 :: p3 :: rest) ++ [last]).Sublist (p2 :: p3 :: rest) :=
        ih rfl (by rwa [List.getLast?_cons_cons] at hl) (Nat.le_add_left 2 _)
      by_cases h : OffChord tol p1 p2 p3
      · rw [keepInterior_of_off h]; exact ih.cons_cons p1
      · rw [keepInterior_of_not_off h]; exact ((List.sublist_cons_self p2 _).trans ih).cons_cons p1

theorem mem_keepInterior_cons {tol : Rat} {x p : Rat × Rat} {l : List (Rat × Rat)}
    (h : x ∈ keepInterior tol l) : x ∈ keepInterior tol (p :: l) := by
  obtain _ | ⟨p2, _ | ⟨p3, rest⟩⟩ := l
  · exact absurd h List.not_mem_nil
  · exact absurd h List.not_mem_nil
  · by_cases hoff : OffChord tol p p2 p3
    · rw [keepInterior_of_off hoff]; exact List.mem_cons_of_mem _ h
    · rw [keepInterior_of_not_off hoff]; exact h

theorem dropFirstKept_sub (tol : Rat) (kept : List (Rat × Rat)) :
    (match kept with
      | a :: b :: rest => if rabs (a.1 - b.1) < tol then b :: rest else a :: b :: rest
      | l => l).Sublist kept := by
  split
  · split_ifs
    · exact List.sublist_cons_self _ _
    · exact List.Sublist.refl _
  · exact List.Sublist.refl _

theorem dropLastKept_sub (tol : Rat) (kept1 : List (Rat × Rat)) :
    (match kept1.reverse with
      | a :: b :: rest => if rabs (a.1 - b.1) < tol then (b :: rest).reverse else kept1
      | _ => kept1).Sublist kept1 := by
  split
  · rename_i a b rest hrev
    split_ifs
    · conv_rhs => rw [List.reverse_eq_cons_iff.mp hrev]
      exact List.sublist_append_left _ _
    · exact List.Sublist.refl _
  · exact List.Sublist.refl _

theorem dedupAdj_sublist (l : List (Rat × Rat)) : (dedupAdj l).Sublist l := by
  fun_induction dedupAdj l with
  | case1 a b rest h ih => exact ih.trans ((List.sublist_cons_self b rest).cons_cons a)
  | case2 a b rest h ih => exact ih.cons_cons a
  | case3 l h => exact List.Sublist.refl l

end OP

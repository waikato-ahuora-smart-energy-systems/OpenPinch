/-
  C07: the pocket sweep never alters the GCC itself (any interpolated column other than `H_net_np`).
  The sweep touches the table in two ways only — it writes `H_net_np` cells (`flatten`, the initial
  copy) and it inserts closing temperatures (`insertTemps`) — and `SameCurve` survives both; so it
  survives every step, the loop, and each side of the pinch.
-/
import OPModel.Model.Pockets
import OPModel.Proofs.Basic
import OPModel.Proofs.TableColumn

namespace OP

variable {cfg : TblCfg} {c : Nat} {p0 : Pt} {P : List Pt}

section
variable {cNP : Nat} (h1 : cNP ≠ c) (h2 : cNP ≠ cfg.tI)
include h1 h2

theorem cellPt_put (r : Row) (v : Cell) : cellPt cfg c (r.put cNP v) = cellPt cfg c r := by
  unfold cellPt
  rw [Row.get_put r cNP cfg.tI v h2, Row.get_put r cNP c v h1]

theorem flatten_cellPt (rows : List Row) (lo hi : Int) (v : Rat) :
    (flatten rows cNP lo hi v).map (cellPt cfg c) = rows.map (cellPt cfg c) := by
  unfold flatten
  conv_rhs => rw [← List.zipIdx_map_fst 0 rows]
  rw [List.map_map, List.map_map]
  apply List.map_congr_left
  intro p _
  simp only [Function.comp]
  rw [apply_ite (cellPt cfg c), cellPt_put h1 h2, ite_self]

theorem SameCurve.flatten {rows : List Row} (h : SameCurve cfg c rows p0 P) (lo hi : Int) (v : Rat) :
    SameCurve cfg c (OP.flatten rows cNP lo hi v) p0 P :=
  h.congr (flatten_cellPt h1 h2 rows lo hi v)

end

variable (ok : CfgOK cfg) {tol : Rat} (htol : 0 ≤ tol) (hc : c ∈ cfg.interp) {cH cNP : Nat} {above : Bool}
include ok htol hc

theorem SameCurve.closeInsert {rows : List Row} {i0 e pinch : Int} (h : SameCurve cfg c rows p0 P)
    {r : List Row × Nat} (he : OP.closeInsert cfg tol cH above rows i0 e pinch = .ok r) : SameCurve cfg c r.1 p0 P := by
  unfold OP.closeInsert at he
  by_cases hep : e ≠ pinch
  · rw [if_pos hep] at he
    -- five cell reads, then the interpolation: of what they return only the closing temperature `t0` matters
    obtain ⟨_, _, he⟩ := Except.bind_ok he
    obtain ⟨_, _, he⟩ := Except.bind_ok he
    obtain ⟨_, _, he⟩ := Except.bind_ok he
    obtain ⟨_, _, he⟩ := Except.bind_ok he
    obtain ⟨_, _, he⟩ := Except.bind_ok he
    obtain ⟨t0, _, he⟩ := Except.bind_ok he
    obtain ⟨out, e', hs⟩ := h.insertTemps ok htol hc [t0]
    rw [e'] at he
    cases he
    exact hs
  · rw [if_neg hep] at he
    cases he
    exact h

variable (h1 : cNP ≠ c) (h2 : cNP ≠ cfg.tI)
include h1 h2

theorem SameCurve.sweepStep {st : Sweep} {i pinch : Int} (h : SameCurve cfg c st.rows p0 P)
    {r : Sweep × Int × Int} (he : OP.sweepStep cfg tol cH cNP above st i pinch = .ok r) :
    SameCurve cfg c r.1.rows p0 P := by
  unfold OP.sweepStep at he
  obtain ⟨hi, _, he⟩ := Except.bind_ok he
  obtain ⟨hn, _, he⟩ := Except.bind_ok he
  by_cases hcond : hi < hn - tol
  · rw [if_pos hcond] at he
    unfold pocketStep at he
    obtain ⟨e, _, he⟩ := Except.bind_ok he
    obtain ⟨r2, hpr, he⟩ := Except.bind_ok he
    unfold pocketRows at hpr
    obtain ⟨r1, hx, hpr⟩ := Except.bind_ok hpr
    obtain ⟨_, _, hpr⟩ := Except.bind_ok hpr
    have hs := h.closeInsert ok htol hc hx
    cases hpr
    cases he
    cases above
    · exact hs.flatten h1 h2 _ _ _
    · exact hs.flatten h1 h2 _ _ _
  · rw [if_neg hcond] at he
    cases he
    exact h

theorem SameCurve.sweepLoop {fuel : Nat} : ∀ {st : Sweep} {i pinch : Int}, SameCurve cfg c st.rows p0 P →
    ∀ {st'}, OP.sweepLoop cfg tol cH cNP above fuel st i pinch = .ok st' → SameCurve cfg c st'.rows p0 P := by
  induction fuel with
  | zero =>
    intro st i pinch h st' he
    cases he
    exact h
  | succ fuel ih =>
    intro st i pinch h st' he
    obtain ⟨r, hstep, he⟩ := Except.bind_ok he
    have hs := h.sweepStep ok htol hc h1 h2 hstep
    by_cases hcond : (r.2.2 - r.2.1) * (if above = true then 1 else -1) ≤ 0
    · rw [if_pos hcond] at he
      cases he
      exact hs
    · rw [if_neg hcond] at he
      exact ih hs he

theorem SameCurve.removePocketsSide {st st' : Sweep} (h : SameCurve cfg c st.rows p0 P)
    (he : OP.removePocketsSide cfg tol cH cNP above st = .ok st') : SameCurve cfg c st'.rows p0 P := by
  unfold OP.removePocketsSide at he
  obtain ⟨hi, _, he⟩ := Except.bind_ok he
  by_cases hcond : hi < tol
  · rw [if_pos hcond] at he
    cases he
    exact h
  · rw [if_neg hcond] at he
    exact h.sweepLoop ok htol hc h1 h2 he

end OP

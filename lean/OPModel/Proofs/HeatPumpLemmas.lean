/- C18 helpers: the energy balance per kilogram, enthalpy steps of a falling profile. -/
import OPModel.Model.HeatPump
import OPModel.Proofs.Basic
import Mathlib.Tactic.Ring

namespace OP.HP
open OP

theorem qEvap_of_le (c : Cycle) (h : c.h3 ≤ c.h0) : qEvap c = (c.h0 - c.h3) / 1000 := by
  unfold qEvap; rw [max_eq_left (sub_nonneg.mpr h)]

/-- The per-kilogram quantities are enthalpy differences in J/kg over 1000. -/
theorem perKilo_pos {x y : Rat} (h : y < x) : 0 < (x - y) / 1000 := div_pos (sub_pos.mpr h) (by norm_num)

theorem wNet_pos (c : Cycle) (h : c.h0 < c.h1) : 0 < wNet c := perKilo_pos h

theorem qCond_pos (c : Cycle) (h : c.h3 < c.h1) : 0 < qCond c := perKilo_pos h

theorem qCond_eq (c : Cycle) (h : c.h3 ≤ c.h0) : qCond c = qEvap c + wNet c := by
  rw [qEvap_of_le c h, qCond, wNet, ← add_div, sub_add_sub_cancel']

theorem work_eq (c : Cycle) (Q : Rat) (h : c.h3 ≤ c.h0) (hq : qCond c ≠ 0) : work c Q = Q * wNet c / qCond c := by
  rw [work, QEvap, mDot, eq_div_iff hq, sub_mul, div_mul_eq_mul_div, div_mul_cancel₀ _ hq, qCond_eq c h]; ring

theorem steps_sum_desc (l : List Rat) (hp : l.Pairwise (· ≥ ·)) (a z : Rat) (ha : l.head? = some a)
    (hz : l.getLast? = some z) : (steps l).sum = a - z := by
  induction l generalizing a with
  | nil => cases ha
  | cons x l ih =>
    cases ha
    cases l with
    | nil => cases hz; simp [steps]
    | cons y rest =>
      have hxy : y ≤ x := (List.pairwise_cons.mp hp).1 y List.mem_cons_self
      rw [steps, List.sum_cons, rabs_sub_of_le hxy,
        ih (List.pairwise_cons.mp hp).2 y rfl (by rwa [List.getLast?_cons_cons] at hz)]
      exact sub_add_sub_cancel x y z

theorem steps_nonneg : ∀ (l : List Rat), ∀ d ∈ steps l, 0 ≤ d
  | [] => fun _ h => nomatch h
  | [_] => fun _ h => nomatch h
  | _ :: y :: rest => List.forall_mem_cons.mpr ⟨rabs_nonneg _, steps_nonneg (y :: rest)⟩

end OP.HP

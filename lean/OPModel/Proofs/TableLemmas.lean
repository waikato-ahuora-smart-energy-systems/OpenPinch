/-
  Helper lemmas for C07, C08: what `put`, `_update_heat_capacity_pairs` and the two row builders
  (`_populate_from_neighbor`, `_initialise_insert_rows` + `_interpolate_heat_columns`) leave in
  each cell, under the layout conditions `CfgOK` / `PairsOK`; the three shapes of the top block.
-/
import OPModel.Model.Table
import Mathlib.Algebra.Order.Field.Rat

namespace OP

theorem Row.get_put (r : Row) (i j : Nat) (v : Cell) (h : i ≠ j) : (r.put i v).get j = r.get j := by
  unfold Row.get Row.put
  rw [List.getElem?_set_ne h]

theorem Row.get_put_self (r : Row) (i : Nat) (v : Cell) (h : i < r.length) : (r.put i v).get i = v := by
  unfold Row.get Row.put
  rw [List.getElem?_set_self h]
  rfl

theorem Row.put_get (r : Row) (i : Nat) : r.put i (r.get i) = r := by
  unfold Row.put Row.get
  by_cases hi : i < r.length
  · rw [List.getElem?_eq_getElem hi]
    exact List.set_getElem_self hi
  · exact List.set_eq_of_length_le (Nat.le_of_not_lt hi)

theorem Row.length_put (r : Row) (i : Nat) (v : Cell) : (r.put i v).length = r.length :=
  List.length_set

theorem get_range_map (n : Nat) (f : Nat → Cell) (c : Nat) (h : c < n) :
    Row.get ((List.range n).map f) c = f c := by
  unfold Row.get
  rw [List.getElem?_map, List.getElem?_range h]
  rfl

/-- Column layout sanity: `T`, `ΔT`, interpolated and ΔH columns are pairwise different and exist. -/
structure CfgOK (cfg : TblCfg) : Prop where
  tLt : cfg.tI < cfg.nCols
  dLt : cfg.dI < cfg.nCols
  td : cfg.tI ≠ cfg.dI
  tInterp : cfg.tI ∉ cfg.interp
  dInterp : cfg.dI ∉ cfg.interp
  interpLt : ∀ c ∈ cfg.interp, c < cfg.nCols
  dh : ∀ p ∈ cfg.pairs, p.2 ∉ cfg.interp ∧ p.2 ≠ cfg.tI ∧ p.2 ≠ cfg.dI

/-- column layout facts about the (CP, ΔH) pairs that the bookkeeping needs -/
structure PairsOK (cfg : TblCfg) : Prop where
  dhLt : ∀ p ∈ cfg.pairs, p.2 < cfg.nCols
  cpLt : ∀ p ∈ cfg.pairs, p.1 < cfg.nCols
  dhDistinct : cfg.pairs.Pairwise (fun p q => p.2 ≠ q.2)
  dhNotCp : ∀ p ∈ cfg.pairs, ∀ q ∈ cfg.pairs, p.2 ≠ q.1
  cpPlain : ∀ p ∈ cfg.pairs, p.1 ≠ cfg.tI ∧ p.1 ≠ cfg.dI ∧ p.1 ∉ cfg.interp

theorem foldl_pairs_get (dI : Nat) (ps : List (Nat × Nat)) (r : Row) (c : Nat) (h : ∀ p ∈ ps, p.2 ≠ c) :
    (ps.foldl (fun r p => r.put p.2 (mulCell (r.get dI) (r.get p.1))) r).get c = r.get c :=
  List.foldlRecOn (motive := fun r' => r'.get c = r.get c) ps _ rfl
    fun r' hr' p hp => (Row.get_put r' p.2 c _ (h p hp)).trans hr'

theorem recomputeDH_get (cfg : TblCfg) (r : Row) (c : Nat) (h : ∀ p ∈ cfg.pairs, p.2 ≠ c) :
    (recomputeDH cfg r).get c = r.get c :=
  foldl_pairs_get cfg.dI cfg.pairs r c h

theorem foldl_pairs_dh (dI : Nat) : ∀ (ps : List (Nat × Nat)) (r : Row),
    ps.Pairwise (fun p q => p.2 ≠ q.2) → (∀ p ∈ ps, p.2 ≠ dI) → (∀ p ∈ ps, ∀ q ∈ ps, p.2 ≠ q.1) →
    (∀ p ∈ ps, p.2 < r.length) →
    ∀ p ∈ ps, (ps.foldl (fun r p => r.put p.2 (mulCell (r.get dI) (r.get p.1))) r).get p.2
      = mulCell (r.get dI) (r.get p.1) := by
  intro ps
  induction ps with
  | nil => intro _ _ _ _ _ p hp; cases hp
  | cons p ps ih =>
    intro r hd hdi hcp hlt q hq
    rw [List.foldl_cons]
    rcases List.mem_cons.mp hq with rfl | hq
    · -- later pairs write other cells
      rw [foldl_pairs_get dI ps _ q.2 (fun q' hq' e => (List.pairwise_cons.mp hd).1 q' hq' e.symm)]
      exact Row.get_put_self r q.2 _ (hlt q List.mem_cons_self)
    · rw [ih _ (List.pairwise_cons.mp hd).2 (fun a ha => hdi a (List.mem_cons_of_mem _ ha))
        (fun a ha b hb => hcp a (List.mem_cons_of_mem _ ha) b (List.mem_cons_of_mem _ hb))
        (fun a ha => by rw [Row.length_put]; exact hlt a (List.mem_cons_of_mem _ ha)) q hq,
        Row.get_put r p.2 dI _ (hdi p List.mem_cons_self),
        Row.get_put r p.2 q.1 _ (hcp p List.mem_cons_self q (List.mem_cons_of_mem _ hq))]

theorem recomputeDH_get_dh (cfg : TblCfg) (ok : CfgOK cfg) (pk : PairsOK cfg) {r : Row} (hlen : r.length = cfg.nCols)
    {p : Nat × Nat} (hp : p ∈ cfg.pairs) : (recomputeDH cfg r).get p.2 = mulCell (r.get cfg.dI) (r.get p.1) :=
  foldl_pairs_dh cfg.dI cfg.pairs r pk.dhDistinct (fun p hp => (ok.dh p hp).2.2) pk.dhNotCp
    (fun p hp => (pk.dhLt p hp).trans_eq hlen.symm) p hp

theorem recomputeDH_length (cfg : TblCfg) (r : Row) : (recomputeDH cfg r).length = r.length :=
  List.foldlRecOn (motive := fun r' => r'.length = r.length) cfg.pairs _ rfl
    fun r' hr' _ _ => (Row.length_put r' _ _).trans hr'

theorem edgeRow_length (cfg : TblCfg) (nb : Row) (t dt : Rat) : (edgeRow cfg nb t dt).length = cfg.nCols := by
  unfold edgeRow; rw [List.length_map, List.length_range]

theorem midRow_length (cfg : TblCfg) (tol : Rat) (up lo : Row) (upT loT t : Rat) :
    (midRow cfg tol up lo upT loT t).length = cfg.nCols := by
  unfold midRow; rw [List.length_map, List.length_range]

theorem edgeRow_get_tI (cfg : TblCfg) (ok : CfgOK cfg) (nb : Row) (t dt : Rat) : (edgeRow cfg nb t dt).get cfg.tI = some t :=
  (get_range_map _ _ _ ok.tLt).trans (if_pos rfl)

theorem edgeRow_get_dI (cfg : TblCfg) (ok : CfgOK cfg) (nb : Row) (t dt : Rat) : (edgeRow cfg nb t dt).get cfg.dI = some dt :=
  (get_range_map _ _ _ ok.dLt).trans ((if_neg (Ne.symm ok.td)).trans (if_pos rfl))

theorem edgeRow_get_interp (cfg : TblCfg) (ok : CfgOK cfg) (nb : Row) (t dt : Rat) {c : Nat} (hc : c ∈ cfg.interp) :
    (edgeRow cfg nb t dt).get c = nb.get c := by
  have h1 : c ≠ cfg.tI := fun e => ok.tInterp (e ▸ hc)
  have h2 : c ≠ cfg.dI := fun e => ok.dInterp (e ▸ hc)
  exact (get_range_map _ _ _ (ok.interpLt c hc)).trans
    ((if_neg h1).trans ((if_neg h2).trans (if_pos (List.contains_iff_mem.mpr hc))))

theorem edgeRow_get_other (cfg : TblCfg) (nb : Row) (t dt : Rat) {c : Nat} (hc : c < cfg.nCols) (h1 : c ≠ cfg.tI)
    (h2 : c ≠ cfg.dI) (h3 : c ∉ cfg.interp) : (edgeRow cfg nb t dt).get c = (nb.get c).map fun _ => 0 :=
  (get_range_map _ _ _ hc).trans ((if_neg h1).trans ((if_neg h2).trans (if_neg fun h => h3 (List.contains_iff_mem.mp h))))

theorem midRow_get_tI (cfg : TblCfg) (ok : CfgOK cfg) (tol : Rat) (up lo : Row) (upT loT t : Rat) :
    (midRow cfg tol up lo upT loT t).get cfg.tI = some t :=
  (get_range_map _ _ _ ok.tLt).trans (if_pos rfl)

theorem midRow_get_other (cfg : TblCfg) (tol : Rat) (up lo : Row) (upT loT t : Rat) {c : Nat} (hc : c < cfg.nCols)
    (h1 : c ≠ cfg.tI) (h2 : c ≠ cfg.dI) (h3 : c ∉ cfg.interp) : (midRow cfg tol up lo upT loT t).get c = lo.get c :=
  (get_range_map _ _ _ hc).trans ((if_neg h1).trans ((if_neg h2).trans (if_neg fun h => h3 (List.contains_iff_mem.mp h))))

theorem topBlock_of_reverse_nil (cfg : TblCfg) (nb : Row) (nbT : Rat) {tops : List Rat} (h : tops.reverse = []) :
    topBlock cfg nb nbT tops = ([], nb) := by
  unfold topBlock; rw [h]

theorem topBlock_of_reverse_singleton (cfg : TblCfg) (nb : Row) (nbT : Rat) {tops : List Rat} {a0 : Rat}
    (h : tops.reverse = [a0]) :
    topBlock cfg nb nbT tops = ([edgeRow cfg nb a0 (rabs (a0 - nbT))], nb.put cfg.dI (some (a0 - nbT))) := by
  unfold topBlock; rw [h]; rfl

theorem topBlock_of_reverse_cons_cons (cfg : TblCfg) (nb : Row) (nbT : Rat) {tops : List Rat} {a0 a1 : Rat}
    {asc : List Rat} (h : tops.reverse = a0 :: a1 :: asc) :
    topBlock cfg nb nbT tops =
      ((shiftDT cfg (edgeChain cfg nb nbT (a0 :: a1 :: asc))).reverse, nb.put cfg.dI (some (a0 - nbT))) := by
  unfold topBlock; rw [h]; rfl

theorem midRow_get_interp (cfg : TblCfg) (ok : CfgOK cfg) (tol : Rat) (up lo : Row) (upT loT t : Rat) {c : Nat}
    (hc : c ∈ cfg.interp) {a b : Rat} (hu : up.get c = some a) (hl : lo.get c = some b) (hgap : ¬ rabs (upT - loT) ≤ tol) :
    (midRow cfg tol up lo upT loT t).get c = some (b + (t - loT) / (upT - loT) * (a - b)) := by
  have h1 : c ≠ cfg.tI := fun e => ok.tInterp (e ▸ hc)
  have h2 : c ≠ cfg.dI := fun e => ok.dInterp (e ▸ hc)
  refine (get_range_map _ _ _ (ok.interpLt c hc)).trans
    ((if_neg h1).trans ((if_neg h2).trans ((if_pos (List.contains_iff_mem.mpr hc)).trans ((if_neg hgap).trans ?_))))
  rw [hu, hl]

end OP

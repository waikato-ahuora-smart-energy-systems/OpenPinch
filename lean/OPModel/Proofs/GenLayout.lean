/-
  The column layout generated from the live `ProblemTableLabel`, `INTERPOLATION_KEYS` and
  `HEAT_CAPACITY_PAIRS` is sane.  Breaks when a constant is changed inconsistently.
-/
import OPModel.Drive.C08

namespace OP

/-- Every fact the proofs need of the generated layout, decided in one kernel run: looking a column
    name up compares strings, which is slow to evaluate, and within one run the kernel does it once.
    The three groups are `CfgOK`, `PairsOK` and the side conditions of C07's `gcc_unchanged`. -/
theorem genLayout_all :
    let cfg := Drive.genCfg
    (cfg.tI < cfg.nCols ∧ cfg.dI < cfg.nCols ∧ cfg.tI ≠ cfg.dI ∧ cfg.tI ∉ cfg.interp ∧ cfg.dI ∉ cfg.interp ∧
      (∀ c ∈ cfg.interp, c < cfg.nCols) ∧ (∀ p ∈ cfg.pairs, p.2 ∉ cfg.interp ∧ p.2 ≠ cfg.tI ∧ p.2 ≠ cfg.dI)) ∧
    ((∀ p ∈ cfg.pairs, p.2 < cfg.nCols) ∧ (∀ p ∈ cfg.pairs, p.1 < cfg.nCols) ∧
      cfg.pairs.Pairwise (fun p q => p.2 ≠ q.2) ∧ (∀ p ∈ cfg.pairs, ∀ q ∈ cfg.pairs, p.2 ≠ q.1) ∧
      (∀ p ∈ cfg.pairs, p.1 ≠ cfg.tI ∧ p.1 ≠ cfg.dI ∧ p.1 ∉ cfg.interp)) ∧
    (Gen.columns.idxOf Gen.col_H_NET ∈ cfg.interp ∧
      Gen.columns.idxOf Gen.col_H_NET_NP ≠ Gen.columns.idxOf Gen.col_H_NET ∧
      Gen.columns.idxOf Gen.col_H_NET_NP ≠ cfg.tI) := by
  decide +kernel

end OP

/-
  `problemTable` in closed form on a compatible grid, in terms of the specification (`deficit`,
  `aboveAll`), and the two read-outs: `PT.targets` (direct integration) and `siteTargets` (total site).
-/
import OPModel.Proofs.CascadeLemmas
import OPModel.Model.Site
import OPModel.Proofs.Basic
import Mathlib.Data.List.Induction

namespace OP

theorem cumsumFrom_length (acc : Rat) (xs : List Rat) : (cumsumFrom acc xs).length = xs.length := by
  induction xs generalizing acc with
  | nil => rfl
  | cons x xs ih => simp [cumsumFrom, ih]

theorem cells_cons_cons (u l : Rat) (rest : List Rat) : cells (u :: l :: rest) = (u, l) :: cells (l :: rest) := by rfl

theorem deltaVals_cons_cons (tol u l : Rat) (rest : List Rat) :
    deltaVals tol (u :: l :: rest) = (if rabs (u - l) ≤ tol then 0 else u - l) :: deltaVals tol (l :: rest) := by rfl

theorem getLast_mem_cons (a : Rat) (l : List Rat) : (a :: l).getLast (List.cons_ne_nil _ _) ∈ a :: l :=
  List.getLast_mem _

theorem listMin_eq_some_iff (xs : List Rat) (m : Rat) : listMin xs = some m ↔ m ∈ xs ∧ ∀ x ∈ xs, m ≤ x := by
  rw [show listMin xs = xs.min? by cases xs <;> rfl]
  exact List.min?_eq_some_iff

theorem listMax_eq_some_iff (xs : List Rat) (m : Rat) : listMax xs = some m ↔ m ∈ xs ∧ ∀ x ∈ xs, x ≤ m := by
  rw [show listMax xs = xs.max? by cases xs <;> rfl]
  exact List.max?_eq_some_iff

theorem listMin_map_cons (f : Rat → Rat) (x : Rat) (xs : List Rat) :
    ∃ y ∈ x :: xs, listMin ((x :: xs).map f) = some (f y) ∧ ∀ z ∈ x :: xs, f y ≤ f z := by
  obtain ⟨hm, hle⟩ := (listMin_eq_some_iff ((x :: xs).map f) _).mp rfl
  obtain ⟨y, hy, e⟩ := List.mem_map.mp hm
  exact ⟨y, hy, e ▸ rfl, fun z hz => e ▸ hle _ (List.mem_map.mpr ⟨z, hz, rfl⟩)⟩

theorem listMax_map_cons (f : Rat → Rat) (x : Rat) (xs : List Rat) :
    ∃ y ∈ x :: xs, listMax ((x :: xs).map f) = some (f y) ∧ ∀ z ∈ x :: xs, f z ≤ f y := by
  obtain ⟨hm, hle⟩ := (listMax_eq_some_iff ((x :: xs).map f) _).mp rfl
  obtain ⟨y, hy, e⟩ := List.mem_map.mp hm
  exact ⟨y, hy, e ▸ rfl, fun z hz => e ▸ hle _ (List.mem_map.mpr ⟨z, hz, rfl⟩)⟩

/-- `np.cumsum(ΔT · g)` down a compatible grid, for any per-cell quantity `g` that is the slope of
    a potential `F` on every compatible cell: the entries are the differences of `F` (`k` is the value of `F` the running sum started from).  The three
    columns of the table are the instances `ΣCP_hot`/`aboveAll hot`, `ΣCP_cold`/`aboveAll cold` and
    `CP_net`/`deficit`. -/
theorem cumsum_cells {tol w : Rat} (htw : tol ≤ w) {ss : List Seg} (g : Rat → Rat → Rat) (F : Rat → Rat)
    (hcell : ∀ l u, CellOK w ss l u → F l = F u + (u - l) * g u l) (k : Rat) :
    ∀ {rest : List Rat} {u acc : Rat}, acc = F u - k → ChainOK w ss u rest →
      cumsumFrom acc (List.zipWith (· * ·) (deltaVals tol (u :: rest)) ((cells (u :: rest)).map fun (u, l) => g u l))
        = rest.map (fun t => F t - k) := by
  intro rest
  induction rest with
  | nil => intro u acc _ _; rfl
  | cons l rest ih =>
    intro u acc hacc hch
    -- the gap exceeds the window, hence the tolerance below which `delta_vals` flushes to zero
    have hgap : ¬ rabs (u - l) ≤ tol := not_rabs_le_of_lt (lt_of_le_of_lt htw hch.1.1)
    have hnew : acc + (u - l) * g u l = F l - k := by rw [hacc, hcell l u hch.1, sub_add_eq_add_sub]
    rw [deltaVals_cons_cons, if_neg hgap, cells_cons_cons, List.map_cons, List.zipWith_cons_cons, cumsumFrom, hnew,
      ih rfl hch.2, List.map_cons]

theorem cum_column {tol w : Rat} (htw : tol ≤ w) {ss : List Seg} (g : Rat → Rat → Rat) (F : Rat → Rat)
    (hcell : ∀ l u, CellOK w ss l u → F l = F u + (u - l) * g u l) {t0 : Rat} {rest : List Rat}
    (hch : ChainOK w ss t0 rest) :
    cumsum (List.zipWith (· * ·) (0 :: deltaVals tol (t0 :: rest)) (0 :: (cells (t0 :: rest)).map fun (u, l) => g u l))
      = (t0 :: rest).map (fun t => F t - F t0) := by
  simp only [cumsum, List.zipWith_cons_cons, cumsumFrom, mul_zero, add_zero, List.map_cons, sub_self]
  rw [cumsum_cells htw g F hcell (F t0) (sub_self _).symm hch]

theorem zipWith_sub_cons_map {α} (g h : α → Rat) (l : List α) :
    List.zipWith (· - ·) (0 :: l.map g) (0 :: l.map h) = 0 :: l.map fun a => g a - h a := by
  rw [List.zipWith_cons_cons, sub_zero, List.zipWith_map, List.zipWith_self]

/-- The enthalpy columns of `problemTable` on a compatible grid `T` with bottom row `bot`, in terms
    of the specification. -/
structure Closed (hot cold : List Seg) (T : List Rat) (bot : Rat) (pt : PT) (q : Rat) : Prop where
  le : ∀ x ∈ T, deficit hot cold x ≤ q
  att : ∃ x ∈ T, deficit hot cold x = q
  hNet : pt.hNet = T.map fun t => q - deficit hot cold t
  hHot : pt.hHot = T.map fun t => aboveAll hot bot - aboveAll hot t
  hCold : pt.hCold = T.map fun t => aboveAll cold bot - aboveAll cold t + (q - deficit hot cold bot)

theorem problemTable_closed {tol w : Rat} (hw : 0 ≤ w) (htw : tol ≤ w) {hot cold : List Seg}
    {t0 : Rat} {rest : List Rat} (hch : ChainOK w (cold ++ hot) t0 rest) :
    ∃ pt q, problemTable tol w (t0 :: rest) hot cold = .ok pt ∧
      Closed hot cold (t0 :: rest) ((t0 :: rest).getLast (List.cons_ne_nil _ _)) pt q := by
  have eH := cum_column htw (fun u l => cpSum w hot l u) (aboveAll hot)
    (fun _ _ h => aboveAll_cell hw h.right le_rfl (h.lt hw).le) hch
  have eC := cum_column htw (fun u l => cpSum w cold l u) (aboveAll cold)
    (fun _ _ h => aboveAll_cell hw h.left le_rfl (h.lt hw).le) hch
  have eN := cum_column htw (fun u l => cpSum w cold l u - cpSum w hot l u) (deficit hot cold)
    (fun _ _ h => deficit_cell hw h le_rfl (h.lt hw).le) hch
  -- the row where `-cumsum(ΔH_net)` is least is the row where the deficit is largest
  obtain ⟨xm, hxm, hm, hle⟩ := listMin_map_cons (fun t => -(deficit hot cold t - deficit hot cold t0)) t0 rest
  -- the three cumulative columns in closed form; then the model's `match` has all it asks for:
  -- the minimum `hm`, and the last entries of columns given row by row
  unfold problemTable
  simp only [zipWith_sub_cons_map, eH, eC, eN, List.map_map, getLast?_map_cons, Function.comp_def, hm, neg_sub_neg,
    sub_sub_sub_cancel_right]
  refine ⟨_, deficit hot cold xm, rfl, fun x hx => (sub_le_sub_iff_right _).mp (neg_le_neg_iff.mp (hle x hx)),
    ⟨xm, hxm, rfl⟩, rfl, rfl, ?_⟩
  -- `H_cold`: the code moves the cold column by `lastNet − minH`, which is `q − deficit bot`, the cold target
  exact List.map_congr_left fun t _ => by ring

theorem cascade_spec {tol w : Rat} (hw : 0 ≤ w) (htw : tol ≤ w) {hot cold : List Seg} {t0 : Rat} {rest : List Rat}
    (hr : InRange (cold ++ hot) ((t0 :: rest).getLast (List.cons_ne_nil _ _)) t0)
    (hch : ChainOK w (cold ++ hot) t0 rest) :
    ∃ pt q, problemTable tol w (t0 :: rest) hot cold = .ok pt ∧
      Closed hot cold (t0 :: rest) ((t0 :: rest).getLast (List.cons_ne_nil _ _)) pt q ∧
      pt.targets = .ok ⟨q, q - total cold + total hot, total hot - (q - total cold + total hot)⟩ := by
  obtain ⟨pt, q, hpt, hc⟩ := problemTable_closed hw htw hch
  refine ⟨pt, q, hpt, hc, ?_⟩
  unfold PT.targets
  rw [hc.hNet, hc.hHot]
  -- the last entries first: `List.map_cons` below takes the pattern of `getLast?_map_cons` apart
  simp only [getLast?_map_cons]
  simp only [List.map_cons, List.head?_cons, hr.deficit_top le_rfl, hr.deficit_bot le_rfl,
    hr.right.aboveAll_top le_rfl, hr.right.aboveAll_bot le_rfl, sub_zero]
  rw [sub_add]

/-- The total-site read-out (`H_net_ut = max(H_net) − H_net`, first and last row): the utility
    cascade is the direct cascade with the roles of hot and cold exchanged. -/
theorem site_spec {tol w : Rat} (hw : 0 ≤ w) (htw : tol ≤ w) {hotU coldU : List Seg} (tz : Targets)
    {t0 : Rat} {rest : List Rat}
    (hr : InRange (coldU ++ hotU) ((t0 :: rest).getLast (List.cons_ne_nil _ _)) t0)
    (hch : ChainOK w (coldU ++ hotU) t0 rest) :
    ∃ t, siteTargets tol w (t0 :: rest) hotU coldU tz = .ok t ∧
      (∀ x ∈ t0 :: rest, deficit coldU hotU x ≤ t.qh) ∧ (∃ x ∈ t0 :: rest, deficit coldU hotU x = t.qh) ∧
      t.qc = t.qh - total hotU + total coldU ∧ t.qr = tz.qr + (tz.qh - t.qh) := by
  obtain ⟨pt, q, hpt, hc⟩ := problemTable_closed hw htw hch
  obtain ⟨y, hy, hm, hle⟩ := listMax_map_cons (fun t => q - deficit hotU coldU t) t0 rest
  refine ⟨⟨deficit coldU hotU y, deficit coldU hotU y - total hotU + total coldU,
      tz.qr + (tz.qh - deficit coldU hotU y)⟩, ?_, fun x hx => ?_, ⟨y, hy, rfl⟩, rfl, rfl⟩
  · simp only [siteTargets, siteUtilityColumn, hpt, hc.hNet, hm, bind, Except.bind, pure, Except.pure, List.map_map,
      getLast?_map_cons, Function.comp_def]
    simp only [List.map_cons, List.head?_cons, hr.deficit_top le_rfl, hr.deficit_bot le_rfl, deficit_swap coldU hotU y,
      sub_zero, sub_sub_cancel_left]
    -- `max(H_net) − H_net[top] = (q − deficit y) − (q − 0)`, the deficit at `y` with hot and cold exchanged
    congr 2
    ring
  · rw [deficit_swap coldU hotU x, deficit_swap coldU hotU y]
    exact neg_le_neg ((sub_le_sub_iff_left q).mp (hle x hx))

theorem sumTargets_eq (ts : List Targets) :
    sumTargets ts = ⟨(ts.map (·.qh)).sum, (ts.map (·.qc)).sum, (ts.map (·.qr)).sum⟩ := by
  unfold sumTargets
  -- `foldl` adds the records from the left, so take them off at the right end
  induction ts using List.reverseRecOn with
  | nil => rfl
  | append_singleton ts t ih =>
    rw [List.foldl_append, ih]
    simp only [List.foldl_cons, List.foldl_nil, List.map_append, List.sum_append, List.map_cons, List.map_nil,
      List.sum_singleton]

end OP

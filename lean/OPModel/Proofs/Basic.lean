/-
  Facts that proofs in several areas use: about the basic helpers of the model (`Model/Basic.lean`: `rabs`,
  `Except` results), about reading descending columns, and two list facts the model's loops share —
  a running minimum / maximum written as a left fold is the library's `List.min?` of the start value and the
  keys, and the renaming loops (`freshO`, `freshChild`, `Coll.freshKey`) are one search, `List.find?` over
  `List.range' c fuel`, which succeeds when there are more candidates than names in use (pigeonhole).
-/
import OPModel.Model.Basic
import Mathlib.Algebra.Order.Field.Rat
import Mathlib.Algebra.Order.Ring.Abs
import Mathlib.Data.List.Nodup

/-- To decide `x = .ok a` by evaluation, decide `x.toOption = some a`: the derived
    `DecidableEq (Except ε α)` reduces very slowly in the kernel, `Option`'s does not. -/
theorem Except.eq_ok_of_toOption {ε α : Type} {x : Except ε α} {a : α} (h : x.toOption = some a) :
    x = .ok a := by
  cases x with
  | error e => cases h
  | ok b => cases h; rfl

theorem Except.bind_ok {ε α β : Type} {x : Except ε α} {f : α → Except ε β} {b : β}
    (h : (x >>= f) = .ok b) : ∃ a, x = .ok a ∧ f a = .ok b := by
  cases x with
  | error e => cases h
  | ok a => exact ⟨a, rfl, h⟩

namespace OP

theorem rabs_eq_abs (x : Rat) : rabs x = |x| := by
  unfold rabs
  split
  · exact (abs_of_neg ‹_›).symm
  · exact (abs_of_nonneg (not_lt.mp ‹_›)).symm

theorem rabs_nonneg (x : Rat) : 0 ≤ rabs x := by rw [rabs_eq_abs]; exact abs_nonneg x

theorem rabs_mul_self (x : Rat) : rabs x * rabs x = x * x := by rw [rabs_eq_abs]; exact abs_mul_abs_self x

theorem rabs_sub_comm (a b : Rat) : rabs (a - b) = rabs (b - a) := by
  rw [rabs_eq_abs, rabs_eq_abs]; exact abs_sub_comm a b

theorem rabs_of_nonneg {x : Rat} (h : 0 ≤ x) : rabs x = x := by rw [rabs_eq_abs]; exact abs_of_nonneg h

theorem rabs_sub_of_le {a b : Rat} (h : b ≤ a) : rabs (a - b) = a - b :=
  rabs_of_nonneg (sub_nonneg.mpr h)

theorem not_rabs_le_of_lt {tol d : Rat} (h : tol < d) : ¬ rabs d ≤ tol := fun hle =>
  absurd (lt_of_lt_of_le h (le_trans (le_abs_self d) (rabs_eq_abs d ▸ hle))) (lt_irrefl _)

theorem getLast?_map_cons {α β} (f : α → β) (a : α) (l : List α) :
    ((a :: l).map f).getLast? = some (f ((a :: l).getLast (List.cons_ne_nil a l))) := by
  rw [List.getLast?_map, List.getLast?_eq_some_getLast (List.cons_ne_nil a l)]; rfl

theorem getElem_le_of_desc {T : List Rat} (hdesc : T.Pairwise (· > ·)) {i j : Nat} (hj : j < T.length)
    (hij : i ≤ j) : T[j] ≤ T[i]'(Nat.lt_of_le_of_lt hij hj) := by
  rcases Nat.lt_or_eq_of_le hij with hlt | rfl
  · exact Rat.le_of_lt (List.pairwise_iff_getElem.mp hdesc i j _ hj hlt)
  · exact Rat.le_refl

/-- To decide a table of strings by evaluation, compare character lists: the kernel decides `s = t` on the
    UTF-8 bytes of both, which it has to compute first.  A literal is `String.ofList [..]` to the kernel, so
    `String.toList_ofList` strips the `toList`s without evaluating anything. -/
theorem forall_mem_of_toList {L R : List String} (h : ∀ x ∈ L.map String.toList, x ∈ R.map String.toList) :
    ∀ s ∈ L, s ∈ R :=
  (List.map_subset_iff _ fun _ _ => String.toList_injective).mp h

theorem contains_eq_false_of_toList {L : List String} {s : String} (h : s.toList ∉ L.map String.toList) :
    L.contains s = false :=
  Bool.eq_false_iff.mpr fun hc => h (List.mem_map_of_mem (List.contains_iff_mem.mp hc))

section RunningMinMax

variable {α β : Type} [LinearOrder β]

theorem min?_cons_map (f : α → β) (l : List α) (a : β) :
    (a :: l.map f).min? = some (l.foldl (fun m x => min m (f x)) a) := by
  rw [List.min?_cons', List.foldl_map]

theorem foldl_min_le (f : α → β) (l : List α) (a : β) :
    l.foldl (fun m x => min m (f x)) a ≤ a ∧ ∀ x ∈ l, l.foldl (fun m x => min m (f x)) a ≤ f x :=
  have h := (List.min?_eq_some_iff.mp (min?_cons_map f l a)).2
  ⟨h a List.mem_cons_self, fun _ hx => h _ (List.mem_cons_of_mem _ (List.mem_map_of_mem hx))⟩

theorem foldl_min_mem (f : α → β) (l : List α) (a : β) :
    l.foldl (fun m x => min m (f x)) a = a ∨ ∃ x ∈ l, l.foldl (fun m x => min m (f x)) a = f x := by
  rcases List.mem_cons.mp (List.min?_eq_some_iff.mp (min?_cons_map f l a)).1 with e | hm
  · exact Or.inl e
  · obtain ⟨x, hx, e⟩ := List.mem_map.mp hm
    exact Or.inr ⟨x, hx, e.symm⟩

theorem le_foldl_max (f : α → β) (l : List α) (a : β) :
    a ≤ l.foldl (fun m x => max m (f x)) a ∧ ∀ x ∈ l, f x ≤ l.foldl (fun m x => max m (f x)) a :=
  foldl_min_le (β := βᵒᵈ) f l a

theorem foldl_max_mem (f : α → β) (l : List α) (a : β) :
    l.foldl (fun m x => max m (f x)) a = a ∨ ∃ x ∈ l, l.foldl (fun m x => max m (f x)) a = f x :=
  foldl_min_mem (β := βᵒᵈ) f l a

end RunningMinMax

/-- `name n` is the `n`-th candidate name, `taken n` the loop's test for it, `c` the first counter tried. -/
theorem exists_find_free {α : Type} (name : Nat → α) (used : List α) (taken : Nat → Bool) (c fuel : Nat)
    (hinj : Function.Injective name) (htaken : ∀ n, taken n = true → name n ∈ used)
    (h : used.length < fuel) : ∃ n, (List.range' c fuel).find? (fun n => !taken n) = some n := by
  rw [← Option.isSome_iff_exists, List.find?_isSome]
  by_contra hall
  -- every candidate is taken: `fuel` distinct names inside `used`
  have hsub : (List.range' c fuel).map name ⊆ used := by
    intro x hx
    obtain ⟨n, hn, rfl⟩ := List.mem_map.mp hx
    cases ht : taken n with
    | true => exact htaken n ht
    | false => exact absurd ⟨n, hn, by rw [ht]; rfl⟩ hall
  have hnd : ((List.range' c fuel).map name).Nodup := (List.nodup_range' (step := 1) (by decide)).map hinj
  have hle := hnd.length_le_of_subset hsub
  rw [List.length_map, List.length_range'] at hle
  omega

end OP

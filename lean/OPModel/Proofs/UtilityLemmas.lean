/-
  C03/C04 helpers on one step of the assignment: which intervals `_maximise_utility_duty` accepts
  (`mem_candidates`) and what it returns (`maximise_spec`), either side at once, and what follows from the two,
  up to the rows of the load profile a utility's supply level reaches (`Reaches`, `maximise_reaches`).
-/
import OPModel.Model.Utility
import OPModel.Proofs.Basic
import Mathlib.Data.List.Chain

namespace OP

theorem cells_mem {l : List (Rat × Rat)} {a b : Rat × Rat} (h : (a, b) ∈ candidates.cells' l) : a ∈ l ∧ b ∈ l := by
  fun_induction candidates.cells' l with
  | case1 x y l ih =>
    rcases List.mem_cons.mp h with h | h
    · obtain ⟨rfl, rfl⟩ := Prod.mk.inj h
      exact ⟨List.mem_cons_self, List.mem_cons_of_mem _ List.mem_cons_self⟩
    · obtain ⟨p, q⟩ := ih h
      exact ⟨List.mem_cons_of_mem _ p, List.mem_cons_of_mem _ q⟩
  | case2 l _ => nomatch h

theorem isChain_iff_cells {R : Rat × Rat → Rat × Rat → Prop} {l : List (Rat × Rat)} :
    l.IsChain R ↔ ∀ cell ∈ candidates.cells' l, R cell.1 cell.2 := by
  induction l with
  | nil => exact iff_of_true .nil fun _ h => nomatch h
  | cons a l ih =>
    cases l with
    | nil => exact iff_of_true (.singleton a) fun _ h => nomatch h
    | cons b l => rw [List.isChain_cons_cons, ih, candidates.cells', List.forall_mem_cons]

/-- An interval `cell = (upper row, lower row)` is seen from the side the utility comes from, a hot utility from
    above, a cold one from below.  The row on that side (`adjacent_H`, `previous_T` / `next_T` of
    `_maximise_utility_duty`): its temperature meets the supply test, its load is the potential. -/
def adj (isHot : Bool) (cell : (Rat × Rat) × (Rat × Rat)) : Rat × Rat := if isHot then cell.1 else cell.2

/-- the row on the other side (`current_T`, `current_H`): its temperature meets the target test -/
def cur (isHot : Bool) (cell : (Rat × Rat) × (Rat × Rat)) : Rat × Rat := if isHot then cell.2 else cell.1

/-- how far the level `x` lies past the row temperature `t`, towards the side the utility comes from
    (`dt_sup`, `dt_tar` are `beyond` of the supply and the target level) -/
def beyond (isHot : Bool) (x t : Rat) : Rat := if isHot then x - t else t - x

theorem adj_mem {l : List (Rat × Rat)} {cell : (Rat × Rat) × (Rat × Rat)} (isHot : Bool)
    (h : cell ∈ candidates.cells' l) : adj isHot cell ∈ l := by
  have := cells_mem h
  cases isHot
  exacts [this.2, this.1]

theorem cur_mem {l : List (Rat × Rat)} {cell : (Rat × Rat) × (Rat × Rat)} (isHot : Bool)
    (h : cell ∈ candidates.cells' l) : cur isHot cell ∈ l := by
  have := cells_mem h
  cases isHot
  exacts [this.1, this.2]

theorem beyond_add (isHot : Bool) (x s t : Rat) : beyond isHot x s + beyond isHot s t = beyond isHot x t := by
  cases isHot
  · exact (add_comm _ _).trans (sub_add_sub_cancel t s x)
  · exact sub_add_sub_cancel x s t

theorem le_beyond_trans {isHot : Bool} {a x s t : Rat} (h1 : a ≤ beyond isHot x s) (h2 : 0 ≤ beyond isHot s t) :
    a ≤ beyond isHot x t :=
  beyond_add isHot x s t ▸ le_add_of_le_of_nonneg h1 h2

theorem adj_beyond_cur {T H : List Rat} {cell : (Rat × Rat) × (Rat × Rat)} (isHot : Bool)
    (hlen : T.length = H.length) (hdesc : T.Pairwise (· > ·)) (h : cell ∈ candidates.cells' (T.zip H)) :
    0 < beyond isHot (adj isHot cell).1 (cur isHot cell).1 := by
  rw [← List.map_fst_zip (l₂ := H) hlen.le, List.pairwise_map] at hdesc
  have := sub_pos.mpr (isChain_iff_cells.mp hdesc.isChain cell h)
  cases isHot
  exacts [this, this]

theorem exists_limit_cell {T H : List Rat} {isHot : Bool} {limit : Rat} (hlen : T.length = H.length)
    (hend : (if isHot then H.head? else H.getLast?) = some limit) (hz : ∃ z ∈ H, z ≠ limit) :
    ∃ cell ∈ candidates.cells' (T.zip H), (adj isHot cell).2 = limit ∧ (cur isHot cell).2 ≠ limit := by
  -- otherwise "holds `limit`" passes from row to row, away from the utility's end, and reaches every row
  by_contra hno
  have hno : ∀ cell ∈ candidates.cells' (T.zip H), (adj isHot cell).2 = limit → (cur isHot cell).2 = limit :=
    fun cell hcell h => by_contra fun hn => hno ⟨cell, hcell, h, hn⟩
  obtain ⟨z, hz, hne⟩ := hz
  rw [← List.map_snd_zip (l₁ := T) hlen.ge] at hz hend
  obtain ⟨b, hb, rfl⟩ := List.mem_map.mp hz
  refine hne ?_
  cases isHot
  · refine (isChain_iff_cells.mpr hno).backwards_induction (·.2 = limit) _ (fun _ _ h => h) (fun hnil => ?_) b hb
    rw [if_neg Bool.false_ne_true, List.getLast?_map, List.getLast?_eq_some_getLast hnil] at hend
    exact Option.some.inj hend
  · refine (isChain_iff_cells.mpr hno).induction (·.2 = limit) _ (fun _ _ h => h) (fun hnil => ?_) b hb
    rw [if_pos rfl, List.head?_map, List.head?_eq_some_head hnil] at hend
    exact Option.some.inj hend

theorem mem_candidates {tol : Rat} {T H : List Rat} {u : ULevel} {isHot : Bool} {qA : Rat} {c : Cand} :
    c ∈ candidates tol T H u isHot qA ↔ ∃ cell ∈ candidates.cells' (T.zip H),
      ((adj isHot cell).2 ≠ (cur isHot cell).2 ∧ -tol ≤ beyond isHot u.ts (adj isHot cell).1 ∧
        tol < (adj isHot cell).2 - qA) ∧
      ⟨(adj isHot cell).2 - qA, (cur isHot cell).2 - qA, beyond isHot u.tt (cur isHot cell).1⟩ = c := by
  rw [candidates, List.mem_filterMap]
  refine exists_congr fun cell => and_congr_right fun _ => ?_
  obtain ⟨⟨tU, hU⟩, ⟨tL, hL⟩⟩ := cell
  -- once `isHot` is known both sides compute to the same guard and the same record
  cases isHot <;> exact Option.ite_none_right_eq_some.trans (and_congr_right' Option.some_inj)

theorem candidates_eq_nil_of_short {tol : Rat} {T H : List Rat} {u : ULevel} {isHot : Bool} {qA : Rat}
    (h : T.length < 2) : candidates tol T H u isHot qA = [] := by
  rcases T with _ | ⟨_, _ | _⟩
  · rfl
  · cases H <;> rfl
  · exact absurd h (Nat.not_lt.mpr (Nat.le_add_left 2 _))

theorem candidates_qPot (tol : Rat) (T H : List Rat) (u : ULevel) (isHot : Bool) (qA M : Rat)
    (hM : ∀ h ∈ H, h ≤ M) : ∀ c ∈ candidates tol T H u isHot qA, tol < c.qPot ∧ c.qPot ≤ M - qA := by
  intro c hc
  obtain ⟨cell, hcell, ⟨_, _, hq⟩, rfl⟩ := mem_candidates.mp hc
  have : (adj isHot cell).2 ≤ M := hM _ (List.of_mem_zip (adj_mem isHot hcell)).2
  exact ⟨hq, sub_le_sub_right this qA⟩

/-- `Q_tt` of one interval past the target level: the duty a utility gliding linearly from supply to target may
    carry so that what it still has to release beyond that interval's row fits the load the profile holds there -/
def cap (u : ULevel) (c : Cand) : Rat := c.qCur / (-c.dtTar) * rabs (u.tt - u.ts)

theorem cap_mul (u : ULevel) {c : Cand} (h : 0 < -c.dtTar) : cap u c * (-c.dtTar) = c.qCur * rabs (u.tt - u.ts) := by
  unfold cap; rw [mul_right_comm, div_mul_cancel₀ _ h.ne']

/-- The `Q_tt` fold and the `min` with `Q_ts_max` that follows it are together one running minimum, started at `Q_ts_max`,
    over the intervals the test `p` lets through. -/
theorem foldl_optmin_elim {α : Type} (p : α → Prop) [DecidablePred p] (g : α → Rat) (a : Rat) (l : List α)
    (acc : Option Rat) :
    (match l.foldl (fun acc x => if p x then (match acc with | none => some (g x) | some b => some (min b (g x))) else acc) acc with
      | none => a
      | some v => min a v) =
    (l.filter p).foldl (fun m x => min m (g x)) (match acc with | none => a | some b => min a b) := by
  induction l generalizing acc with
  | nil => rfl
  | cons x l ih =>
    rw [List.foldl_cons, ih]
    by_cases hp : p x
    · rw [if_pos hp, List.filter_cons_of_pos (p := (p ·)) (decide_eq_true hp), List.foldl_cons]
      cases acc
      · rfl
      · exact congrArg (List.foldl _ · _) (min_assoc a _ (g x)).symm
    · rw [if_neg hp, List.filter_cons_of_neg (p := (p ·)) (mt of_decide_eq_true hp)]

/-- `_maximise_utility_duty`, said once.  Either nothing is handed out, and then every valid interval has its `cur` row
    past the target level; or the duty is the least of `Q_ts_max`, the largest potential, and the
    caps `Q_tt` of the intervals past the target level: it is below one potential and below every cap, and it is
    at least every potential unless it IS one of the caps. -/
theorem maximise_spec (tol : Rat) (T H : List Rat) (u : ULevel) (isHot : Bool) (qA : Rat) :
    (maximiseUtilityDuty tol T H u isHot qA = 0 ∧ ∀ c ∈ candidates tol T H u isHot qA, c.dtTar < 0) ∨
    ((∃ c ∈ candidates tol T H u isHot qA, maximiseUtilityDuty tol T H u isHot qA ≤ c.qPot) ∧
     (∀ c ∈ candidates tol T H u isHot qA, tol < -c.dtTar → maximiseUtilityDuty tol T H u isHot qA ≤ cap u c) ∧
     ((∀ c ∈ candidates tol T H u isHot qA, c.qPot ≤ maximiseUtilityDuty tol T H u isHot qA) ∨
       ∃ c ∈ candidates tol T H u isHot qA, tol < -c.dtTar ∧ maximiseUtilityDuty tol T H u isHot qA = cap u c)) := by
  -- the definition is unfolded in ONE equation `… = q`, not in the six places the statement mentions it
  generalize hq : maximiseUtilityDuty tol T H u isHot qA = q
  unfold maximiseUtilityDuty at hq
  by_cases hlen : T.length < 2
  · rw [if_pos hlen] at hq
    rw [candidates_eq_nil_of_short hlen]
    exact Or.inl ⟨hq.symm, fun c hc => nomatch hc⟩
  rw [if_neg hlen] at hq
  generalize candidates tol T H u isHot qA = all at hq ⊢
  cases all with
  | nil => exact Or.inl ⟨hq.symm, fun c hc => nomatch hc⟩
  | cons c cs =>
    dsimp only at hq
    by_cases hdt : cs.foldl (fun m x => max m x.dtTar) c.dtTar < 0
    · rw [if_pos hdt] at hq
      obtain ⟨h0, h1⟩ := le_foldl_max (·.dtTar) cs c.dtTar
      exact Or.inl ⟨hq.symm, List.forall_mem_cons.mpr ⟨lt_of_le_of_lt h0 hdt, fun x hx => lt_of_le_of_lt (h1 x hx) hdt⟩⟩
    · rw [if_neg hdt] at hq
      right
      obtain ⟨x0, hx0, e0⟩ : ∃ x ∈ c :: cs, cs.foldl (fun m x => max m x.qPot) c.qPot = x.qPot := by
        rcases foldl_max_mem (·.qPot) cs c.qPot with e | ⟨x, hx, e⟩
        exacts [⟨c, List.mem_cons_self, e⟩, ⟨x, List.mem_cons_of_mem _ hx, e⟩]
      have hge : ∀ x ∈ c :: cs, x.qPot ≤ cs.foldl (fun m x => max m x.qPot) c.qPot := by
        obtain ⟨h0, h1⟩ := le_foldl_max (·.qPot) cs c.qPot
        exact List.forall_mem_cons.mpr ⟨h0, h1⟩
      generalize cs.foldl (fun m x => max m x.qPot) c.qPot = qTs at hq e0 hge
      replace hq : ((c :: cs).filter (tol < -·.dtTar)).foldl (fun m x => min m (cap u x)) qTs = q :=
        (foldl_optmin_elim _ _ _ _ none).symm.trans hq
      subst hq
      obtain ⟨hle0, hle⟩ := foldl_min_le (cap u) ((c :: cs).filter (tol < -·.dtTar)) qTs
      refine ⟨⟨x0, hx0, hle0.trans e0.le⟩, fun x hx hp => hle x (List.mem_filter.mpr ⟨hx, decide_eq_true hp⟩), ?_⟩
      rcases foldl_min_mem (cap u) ((c :: cs).filter (tol < -·.dtTar)) qTs with e | ⟨x, hx, e⟩
      · rw [e]; exact Or.inl hge
      · obtain ⟨hx, hp⟩ := List.mem_filter.mp hx
        exact Or.inr ⟨x, hx, of_decide_eq_true hp, e⟩

theorem maximise_le (tol : Rat) (T : List Rat) {H : List Rat} (u : ULevel) (isHot : Bool) {qA M : Rat}
    (hM : ∀ h ∈ H, h ≤ M) (hqA : qA ≤ M) :
    maximiseUtilityDuty tol T H u isHot qA ≤ M - qA := by
  rcases maximise_spec tol T H u isHot qA with ⟨h0, _⟩ | ⟨⟨c, hc, hle⟩, _⟩
  · rw [h0]; exact sub_nonneg.mpr hqA
  · exact le_trans hle (candidates_qPot tol T H u isHot qA M hM c hc).2

/-- If some valid interval has the load `limit` on the utility's side and less on the other (`hlim`, `hne`), the supply
    level reaches it (`hsup`), no valid interval lies past the target level (`htar`) and more than `tol` is left, the
    utility takes all that is left. -/
theorem maximise_takes_rest {tol : Rat} (htol : 0 ≤ tol) {T H : List Rat} {u : ULevel} {isHot : Bool} {qA limit : Rat}
    (hM : ∀ h ∈ H, h ≤ limit) (hq : tol < limit - qA)
    {cell : (Rat × Rat) × (Rat × Rat)} (hcell : cell ∈ candidates.cells' (T.zip H))
    (hlim : (adj isHot cell).2 = limit) (hne : (cur isHot cell).2 ≠ limit)
    (hsup : -tol ≤ beyond isHot u.ts (adj isHot cell).1)
    (htar : ∀ cell ∈ candidates.cells' (T.zip H), (adj isHot cell).2 ≠ (cur isHot cell).2 →
      0 ≤ beyond isHot u.tt (cur isHot cell).1) :
    maximiseUtilityDuty tol T H u isHot qA = limit - qA := by
  have hc0 := mem_candidates.mpr ⟨cell, hcell, ⟨by rw [hlim]; exact hne.symm, hsup, by rw [hlim]; exact hq⟩, rfl⟩
  have hall : ∀ c ∈ candidates tol T H u isHot qA, 0 ≤ c.dtTar := by
    intro c hc
    obtain ⟨cell', hcell', ⟨hne', _, _⟩, rfl⟩ := mem_candidates.mp hc
    exact htar cell' hcell' hne'
  rcases maximise_spec tol T H u isHot qA with ⟨_, hneg⟩ | ⟨⟨c, hc, hle⟩, _, hge | ⟨c, hc, hp, _⟩⟩
  · exact absurd (hneg _ hc0) (not_lt.mpr (hall _ hc0))
  · apply le_antisymm (le_trans hle (candidates_qPot tol T H u isHot qA limit hM c hc).2)
    have := hge _ hc0
    rwa [hlim] at this
  · exact absurd (neg_pos.mp (htol.trans_lt hp)) (not_lt.mpr (hall c hc))

/-- The row of the profile a utility's supply level can reach (within `tol`). -/
def Reaches (tol : Rat) (isHot : Bool) (u : ULevel) (r : Rat × Rat) : Prop :=
  if isHot then r.1 ≤ u.ts + tol else u.ts - tol ≤ r.1

theorem reaches_iff {tol : Rat} {isHot : Bool} {u : ULevel} {r : Rat × Rat} :
    Reaches tol isHot u r ↔ -tol ≤ beyond isHot u.ts r.1 := by
  unfold Reaches beyond
  split_ifs
  · exact neg_le_sub_iff_le_add.symm
  · exact sub_le_iff_le_add.trans neg_le_sub_iff_le_add.symm

theorem maximise_reaches (tol : Rat) (T H : List Rat) (u : ULevel) (isHot : Bool) (qA : Rat) :
    maximiseUtilityDuty tol T H u isHot qA = 0 ∨
      ∃ r ∈ T.zip H, Reaches tol isHot u r ∧ qA + maximiseUtilityDuty tol T H u isHot qA ≤ r.2 := by
  rcases maximise_spec tol T H u isHot qA with ⟨h, _⟩ | ⟨⟨c, hc, hle⟩, _⟩
  · exact Or.inl h
  · obtain ⟨cell, hcell, ⟨_, hs, _⟩, rfl⟩ := mem_candidates.mp hc
    exact Or.inr ⟨adj isHot cell, adj_mem isHot hcell, reaches_iff.mpr hs, le_sub_iff_add_le'.mp hle⟩

end OP

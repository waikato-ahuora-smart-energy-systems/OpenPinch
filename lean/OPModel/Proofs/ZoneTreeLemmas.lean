/-
  C10 helpers, user-tree mode: label resolution returns a node of the tree, the child-naming loop
  always finds a free name, and rewriting keeps the invariant "every placed stream sits in a leaf".
-/
import OPModel.Proofs.ZoneLemmas

namespace OP

theorem resolveLabel_mem {paths : List ZPath} {root : String} {comps r : ZPath}
    (h : resolveLabel paths root comps = some r) : r ∈ paths := by
  unfold resolveLabel at h
  by_cases h1 : paths.contains comps = true
  · rw [if_pos h1] at h
    cases h; exact List.contains_iff_mem.mp h1
  by_cases h2 : paths.contains (root :: comps) = true
  · rw [if_neg h1, if_pos h2] at h
    cases h; exact List.contains_iff_mem.mp h2
  rw [if_neg h1, if_neg h2] at h
  split at h
  · rename_i p hp
    cases h
    exact List.mem_of_mem_filter (hp ▸ List.mem_singleton_self r)
  · cases h

theorem childName_ne_base (base : String) {c : Nat} (hc : c ≠ 1) : childName base c ≠ base := by
  -- the suffix `"_" ++ …` makes the name longer than `base`
  intro h
  have := congrArg String.length h
  rw [childName, if_neg hc, String.append_assoc, String.length_append, Nat.add_eq_left, String.length_append] at this
  exact absurd (Nat.add_eq_zero_iff.mp this).1 (by decide +kernel)

theorem childName_inj (base : String) {a b : Nat} (h : childName base a = childName base b) : a = b := by
  by_cases ha1 : a = 1
  · by_contra hne
    exact childName_ne_base base (fun hb1 => hne (ha1.trans hb1.symm)) (by rw [← h, ha1, childName, if_pos rfl])
  · by_cases hb1 : b = 1
    · exact absurd (by rw [h, hb1, childName, if_pos rfl]) (childName_ne_base base ha1)
    · rw [childName, childName, if_neg ha1, if_neg hb1] at h
      exact Nat.repr_injective ((String.append_right_inj _).mp h)

theorem freshChild_eq_find (paths : List ZPath) (node : ZPath) (nodeName base : String) (fuel c : Nat) :
    freshChild paths node nodeName base fuel c = ((List.range' c fuel).find? fun n =>
      !(paths.contains (node ++ [childName base n]) || childName base n == nodeName)).map (childName base) := by
  induction fuel generalizing c with
  | zero => rfl
  | succ n ih =>
    rw [freshChild, ih, List.range'_succ, List.find?_cons]
    cases (paths.contains (node ++ [childName base c]) || childName base c == nodeName) <;> rfl

/-- the child-naming loop finds a free name within `len + 2` attempts: the node's own name counts as
    one more sibling -/
theorem freshChild_some (paths : List ZPath) (node : ZPath) (nodeName base : String) (fuel c : Nat)
    (h : paths.length + 1 < fuel) :
    ∃ nm, freshChild paths node nodeName base fuel c = some nm ∧ node ++ [nm] ∉ paths := by
  obtain ⟨r, hr⟩ := exists_find_free (fun n => node ++ [childName base n]) (paths ++ [node ++ [nodeName]])
    (fun n => paths.contains (node ++ [childName base n]) || childName base n == nodeName) c fuel
    (fun _ _ hab => childName_inj base (List.singleton_inj.mp (List.append_cancel_left hab)))
    (fun n hn => by
      rcases Bool.or_eq_true_iff.mp hn with hn | hn
      · exact List.mem_append_left _ (List.contains_iff_mem.mp hn)
      · rw [beq_iff_eq.mp hn]; exact List.mem_append_right _ (List.mem_singleton_self _))
    (by rw [List.length_append, List.length_singleton]; exact h)
  refine ⟨_, by rw [freshChild_eq_find, hr]; rfl, ?_⟩
  have := List.find?_some hr
  simp only [Bool.not_eq_true', Bool.or_eq_false_iff] at this
  simpa using this.1

structure TInv (st : TBuild) : Prop where
  nodup : st.paths.Nodup
  closed : PrefClosed st.paths
  nonempty : ∀ p ∈ st.paths, p ≠ []
  leaf : ∀ z, some z ∈ st.zones → z ∈ st.paths ∧ kidsOf st.paths z = [] ∧ 1 < z.length

theorem prefClosed_append_child {paths : List ZPath} (hcl : PrefClosed paths) {r : ZPath} (hr : r ∈ paths)
    (nm : String) : PrefClosed (paths ++ [r ++ [nm]]) := by
  rw [prefClosed_iff] at hcl ⊢
  intro p hp x hx hne
  rcases List.mem_append.mp hp with hp | hp
  · exact List.mem_append_left _ (hcl p hp x hx hne)
  · rw [List.mem_singleton.mp hp] at hx
    rcases List.prefix_concat_iff.mp hx with e | hxr
    · exact List.mem_append_right _ (List.mem_singleton.mpr e)
    · exact List.mem_append_left _ (hcl r hr x hxr hne)

theorem tinv_push {st : TBuild} (h : TInv st) (o : Option ZPath)
    (ho : ∀ z, o = some z → z ∈ st.paths ∧ kidsOf st.paths z = [] ∧ 1 < z.length) :
    TInv { st with zones := st.zones ++ [o] } :=
  ⟨h.nodup, h.closed, h.nonempty, fun z hz => (List.mem_append.mp hz).elim (h.leaf z)
    fun hz => ho z (List.mem_singleton.mp hz).symm⟩

theorem tinv_add_child {st : TBuild} (h : TInv st) {r : ZPath} (hr : r ∈ st.paths) (hnz : some r ∉ st.zones)
    {nm : String} (hfresh : r ++ [nm] ∉ st.paths) :
    TInv { paths := st.paths ++ [r ++ [nm]], zones := st.zones ++ [some (r ++ [nm])] } := by
  have hcl := prefClosed_append_child h.closed hr nm
  refine ⟨List.Nodup.append h.nodup (List.nodup_singleton _) (List.disjoint_singleton.mpr hfresh), hcl, ?_, ?_⟩
  · exact List.forall_mem_append.mpr ⟨h.nonempty, List.forall_mem_singleton.mpr (List.concat_ne_nil _ _)⟩
  · intro z hz
    rw [kidsOf_eq_nil_iff hcl]
    rcases List.mem_append.mp hz with hz | hz
    · -- an old leaf is not `r`, so the new path does not extend it
      obtain ⟨hm, hk, hl⟩ := h.leaf z hz
      rw [kidsOf_eq_nil_iff h.closed] at hk
      refine ⟨List.mem_append_left _ hm,
        List.forall_mem_append.mpr ⟨hk, List.forall_mem_singleton.mpr fun hpre => ?_⟩, hl⟩
      rcases List.prefix_concat_iff.mp hpre with e | hzr
      · exact e.symm
      · exact absurd (hk r hr hzr ▸ hz) hnz
    · -- an old path below the new node would have brought the new node with it
      obtain rfl : z = r ++ [nm] := Option.some.inj (List.mem_singleton.mp hz)
      exact ⟨List.mem_append_right _ (List.mem_singleton_self _),
        List.forall_mem_append.mpr ⟨fun q hq hpre =>
          absurd ((prefClosed_iff _).mp h.closed q hq _ hpre (List.concat_ne_nil _ _)) hfresh,
          List.forall_mem_singleton.mpr fun _ => rfl⟩,
        by rw [List.length_append]; exact Nat.lt_add_of_pos_left (List.length_pos_iff.mpr (h.nonempty r hr))⟩

theorem rewriteOne_spec (root : String) {st : TBuild} (comps : ZPath) (sname : String) (h : TInv st) :
    ∃ st', rewriteOne root st comps sname = .ok st' ∧ TInv st' ∧ st'.zones.length = st.zones.length + 1 := by
  unfold rewriteOne
  by_cases hc : comps.isEmpty = true
  · exact ⟨_, if_pos hc, tinv_push h none (fun _ e => nomatch e), List.length_append⟩
  · rw [if_neg hc]
    cases hr : resolveLabel st.paths root comps with
    | none => exact ⟨_, rfl, tinv_push h none (fun _ e => nomatch e), List.length_append⟩
    | some r =>
      have hrmem := resolveLabel_mem hr
      -- the stream stays in `r` when `r` is a leaf below the root
      have htest : (decide (1 < r.length) && !hasKids st.paths r) = true ↔ 1 < r.length ∧ kidsOf st.paths r = [] := by
        rw [Bool.and_eq_true, decide_eq_true_eq, hasKids, Bool.not_not, List.isEmpty_iff]
      dsimp only
      by_cases hstay : (decide (1 < r.length) && !hasKids st.paths r) = true
      · rw [if_pos hstay]
        refine ⟨_, rfl, tinv_push h (some r) fun z e => ?_, List.length_append⟩
        cases e
        exact ⟨hrmem, (htest.mp hstay).2, (htest.mp hstay).1⟩
      · rw [if_neg hstay]
        -- `r` holds no stream yet: a zone that does is a leaf below the root, and the stay-test would have passed
        have hnz : some r ∉ st.zones := fun hz => hstay (htest.mpr ⟨(h.leaf r hz).2.2, (h.leaf r hz).2.1⟩)
        generalize (if sname = "" then r.getLast?.getD "" ++ "_Process" else sname) = base
        obtain ⟨nm, hnm, hfresh⟩ := freshChild_some st.paths r (r.getLast?.getD "") base (st.paths.length + 2) 1
          (Nat.lt_succ_self _)
        rw [hnm]
        exact ⟨_, rfl, tinv_add_child h hrmem hnz hfresh, List.length_append⟩

theorem rewriteAll_spec (root : String) (ss : List (ZPath × String)) {st : TBuild} (h : TInv st) :
    ∃ st', rewriteAll root ss st = .ok st' ∧ TInv st' ∧ st'.zones.length = st.zones.length + ss.length := by
  induction ss generalizing st with
  | nil => exact ⟨st, rfl, h, rfl⟩
  | cons x ss ih =>
    obtain ⟨c, n⟩ := x
    obtain ⟨st1, h1, hinv1, hlen1⟩ := rewriteOne_spec root c n h
    obtain ⟨st', h2, hinv', hlen'⟩ := ih hinv1
    exact ⟨st', by rw [rewriteAll, h1]; exact h2, hinv',
      by rw [hlen', hlen1, List.length_cons, Nat.add_assoc, Nat.add_comm 1]⟩

theorem rewriteAll_inv {root : String} {ss : List (ZPath × String)} {st st' : TBuild} (h : TInv st)
    (he : rewriteAll root ss st = .ok st') : TInv st' ∧ st'.zones.length = st.zones.length + ss.length := by
  obtain ⟨st1, h1, hinv, hlen⟩ := rewriteAll_spec root ss h
  obtain rfl : st1 = st' := Except.ok.inj (h1.symm.trans he)
  exact ⟨hinv, hlen⟩

end OP

/-
  The specification of the heat cascade (C01/C02/C05/C06/C09/C12): heat content of a stream set
  above and below a temperature, the net deficit, and what makes a temperature grid compatible
  with the streams.  One fact carries the problem-table algorithm: inside a compatible cell the
  heat content above `x` is affine in `x`, with slope `−ΣCP` of the streams the code's activity
  test selects (`above_cell`); it is lifted to stream sets and to the deficit, and gives both the
  cumulative columns of the table and the step from the grid rows to every temperature.
-/
import OPModel.Model.Cascade
import Mathlib.Algebra.BigOperators.Ring.List
import Mathlib.Algebra.Order.BigOperators.Group.List
import Mathlib.Algebra.Order.Field.Rat
import Mathlib.Tactic.Ring

namespace OP

theorem max_zero_sub_of_le {a b : Rat} (h : a ≤ b) : max 0 (b - a) = b - a := max_eq_right (sub_nonneg.mpr h)

theorem max_zero_sub_of_ge {a b : Rat} (h : b ≤ a) : max 0 (b - a) = 0 := max_eq_left (sub_nonpos.mpr h)

/-- Heat content of a stream above `T`. -/
def above (s : Seg) (T : Rat) : Rat := s.cp * max 0 (s.hi - max s.lo T)

/-- Heat content of a stream below `T`. -/
def below (s : Seg) (T : Rat) : Rat := s.cp * max 0 (min s.hi T - s.lo)

def duty (s : Seg) : Rat := s.cp * (s.hi - s.lo)

theorem above_top {s : Seg} {T : Rat} (h : s.hi ≤ T) : above s T = 0 := by
  unfold above
  rw [max_zero_sub_of_ge (h.trans (le_max_right s.lo T)), mul_zero]

theorem above_bottom {s : Seg} {T : Rat} (hs : s.lo ≤ s.hi) (h : T ≤ s.lo) : above s T = duty s := by
  unfold above duty
  rw [max_eq_left h, max_zero_sub_of_le hs]

theorem above_span {s : Seg} {y : Rat} (h1 : s.lo ≤ y) (h2 : y ≤ s.hi) : above s y = s.cp * (s.hi - y) := by
  unfold above
  rw [max_eq_right h1, max_zero_sub_of_le h2]

theorem above_bounds (s : Seg) (T : Rat) (hcp : 0 ≤ s.cp) (hs : s.lo ≤ s.hi) : 0 ≤ above s T ∧ above s T ≤ duty s := by
  unfold above duty
  constructor
  · exact mul_nonneg hcp (le_max_left _ _)
  · apply mul_le_mul_of_nonneg_left _ hcp
    exact max_le (sub_nonneg.mpr hs) (sub_le_sub_left (le_max_left s.lo T) s.hi)

theorem below_add_above_one (s : Seg) (t : Rat) (hs : s.lo ≤ s.hi) : below s t + above s t = duty s := by
  unfold below above duty
  rw [← mul_add]
  rcases le_total t s.lo with h | h
  · rw [max_eq_left h, min_eq_right (h.trans hs), max_zero_sub_of_ge h, max_zero_sub_of_le hs, zero_add]
  · rw [max_eq_right h]
    rcases le_total t s.hi with h' | h'
    · rw [min_eq_right h', max_zero_sub_of_le h, max_zero_sub_of_le h', sub_add_sub_cancel']
    · rw [min_eq_left h', max_zero_sub_of_le hs, max_zero_sub_of_ge h', add_zero]

def aboveAll (ss : List Seg) (T : Rat) : Rat := (ss.map fun s => above s T).sum

def belowAll (ss : List Seg) (T : Rat) : Rat := (ss.map fun s => below s T).sum

def total (ss : List Seg) : Rat := (ss.map duty).sum

/-- Net heat deficit above `T`: cold demand above `T` minus hot supply above `T`. -/
def deficit (hot cold : List Seg) (T : Rat) : Rat := aboveAll cold T - aboveAll hot T

theorem sum_map_sub {α} (l : List α) (f g : α → Rat) :
    (l.map fun a => f a - g a).sum = (l.map f).sum - (l.map g).sum :=
  l.sum_hom₂ (fun x y : Rat => x - y) (fun a b c d => add_sub_add_comm a b c d) (sub_zero 0) f g

theorem aboveAll_cons (s : Seg) (ss : List Seg) (x : Rat) : aboveAll (s :: ss) x = above s x + aboveAll ss x := by
  unfold aboveAll; simp

theorem total_cons (s : Seg) (ss : List Seg) : total (s :: ss) = duty s + total ss := by unfold total; simp

theorem aboveAll_append (a b : List Seg) (x : Rat) : aboveAll (a ++ b) x = aboveAll a x + aboveAll b x := by
  unfold aboveAll; rw [List.map_append, List.sum_append]

theorem aboveAll_flatten (zs : List (List Seg)) (x : Rat) :
    aboveAll zs.flatten x = (zs.map fun z => aboveAll z x).sum :=
  (congrArg List.sum List.map_flatten).trans (List.sum_flatten.trans (congrArg List.sum List.map_map))

theorem aboveAll_top {ss : List Seg} {T : Rat} (h : ∀ s ∈ ss, s.hi ≤ T) : aboveAll ss T = 0 :=
  List.sum_eq_zero (List.forall_mem_map.mpr fun s hs => above_top (h s hs))

theorem aboveAll_bottom {ss : List Seg} {T : Rat} (h : ∀ s ∈ ss, s.lo ≤ s.hi ∧ T ≤ s.lo) :
    aboveAll ss T = total ss :=
  congrArg List.sum (List.map_congr_left fun s hs => above_bottom (h s hs).1 (h s hs).2)

theorem aboveAll_bounds (ss : List Seg) (T : Rat) (h : ∀ s ∈ ss, 0 ≤ s.cp ∧ s.lo ≤ s.hi) :
    0 ≤ aboveAll ss T ∧ aboveAll ss T ≤ total ss :=
  ⟨List.sum_nonneg (List.forall_mem_map.mpr fun s hs => (above_bounds s T (h s hs).1 (h s hs).2).1),
   List.sum_le_sum fun s hs => (above_bounds s T (h s hs).1 (h s hs).2).2⟩

theorem belowAll_add_aboveAll (ss : List Seg) (t : Rat) (h : ∀ s ∈ ss, s.lo ≤ s.hi) :
    belowAll ss t + aboveAll ss t = total ss := by
  unfold belowAll aboveAll total
  rw [← List.sum_map_add]
  exact congrArg List.sum (List.map_congr_left fun s hs => below_add_above_one s t (h s hs))

theorem deficit_swap (a b : List Seg) (x : Rat) : deficit a b x = -deficit b a x := by
  unfold deficit; rw [neg_sub]

-- Heat content BETWEEN two temperatures, the form in which C05's `content_bot` ties the columns to the usual
-- definition; the proofs of the cascade go through `aboveAll` / `deficit`, so `ovl` and `content` are described
-- here (split, span, miss, the link to `aboveAll`) without any proof resting on it.

/-- Length of the overlap of a stream's range with `[l, u]`. -/
def ovl (s : Seg) (l u : Rat) : Rat := max 0 (min s.hi u - max s.lo l)

/-- Heat content of a stream set between two temperatures. -/
def content (ss : List Seg) (l u : Rat) : Rat := (ss.map fun s => s.cp * ovl s l u).sum

theorem ovl_span (s : Seg) (l u : Rat) (hlu : l ≤ u) (a : s.lo ≤ l) (b : u ≤ s.hi) : ovl s l u = u - l := by
  unfold ovl
  rw [min_eq_right b, max_eq_right a, max_zero_sub_of_le hlu]

theorem ovl_miss (s : Seg) (l u : Rat) (h : s.hi ≤ l ∨ u ≤ s.lo) : ovl s l u = 0 := by
  unfold ovl
  apply max_zero_sub_of_ge
  rcases h with h | h
  · exact (min_le_left s.hi u).trans (h.trans (le_max_right s.lo l))
  · exact (min_le_right s.hi u).trans (h.trans (le_max_left s.lo l))

theorem ovl_top (s : Seg) (T top : Rat) (h : s.hi ≤ top) : ovl s T top = max 0 (s.hi - max s.lo T) := by
  unfold ovl
  rw [min_eq_left h]

theorem ovl_split (s : Seg) (a b c : Rat) (hab : a ≤ b) (hbc : b ≤ c) :
    ovl s a b + ovl s b c = ovl s a c := by
  unfold ovl
  rcases le_total b s.lo with h | h
  · rw [max_eq_left h, max_eq_left (le_trans hab h), max_zero_sub_of_ge ((min_le_right s.hi b).trans h), zero_add]
  · rcases le_total s.hi b with h' | h'
    · rw [min_eq_left h', min_eq_left (le_trans h' hbc), max_zero_sub_of_ge (h'.trans (le_max_right s.lo b)), add_zero]
    · have hl : max s.lo a ≤ b := max_le h hab
      have hu : b ≤ min s.hi c := le_min h' hbc
      rw [min_eq_right h', max_eq_right h, max_zero_sub_of_le hl, max_zero_sub_of_le hu,
        max_zero_sub_of_le (hl.trans hu), sub_add_sub_cancel']

theorem content_append (a b : List Seg) (l u : Rat) : content (a ++ b) l u = content a l u + content b l u := by
  unfold content; rw [List.map_append, List.sum_append]

theorem content_split (ss : List Seg) (a b c : Rat) (hab : a ≤ b) (hbc : b ≤ c) :
    content ss a b + content ss b c = content ss a c := by
  unfold content
  rw [← List.sum_map_add]
  exact congrArg List.sum (List.map_congr_left fun s _ => by rw [← ovl_split s a b c hab hbc, mul_add])

theorem content_self (ss : List Seg) (a : Rat) : content ss a a = 0 :=
  List.sum_eq_zero (List.forall_mem_map.mpr fun s _ => by
    unfold ovl
    rw [max_zero_sub_of_ge ((min_le_right s.hi a).trans (le_max_right s.lo a)), mul_zero])

theorem content_eq_above (ss : List Seg) (T top : Rat) (h : ∀ s ∈ ss, s.hi ≤ top) :
    content ss T top = aboveAll ss T :=
  congrArg List.sum (List.map_congr_left fun s hs => by rw [ovl_top s T top (h s hs)]; rfl)

/-- A grid cell `(l, u)` is compatible with the streams: wider than the activity window and no
    stream bound strictly inside it. -/
def CellOK (w : Rat) (ss : List Seg) (l u : Rat) : Prop :=
  w < u - l ∧ ∀ s ∈ ss, (s.lo ≤ l ∨ u ≤ s.lo) ∧ (s.hi ≤ l ∨ u ≤ s.hi) ∧ s.lo ≤ s.hi

/-- All cells of the grid below `u` are compatible. -/
def ChainOK (w : Rat) (ss : List Seg) : Rat → List Rat → Prop
  | _, [] => True
  | u, l :: rest => CellOK w ss l u ∧ ChainOK w ss l rest

theorem CellOK.lt {w : Rat} {ss : List Seg} {l u : Rat} (hw : 0 ≤ w) (h : CellOK w ss l u) : l < u :=
  sub_pos.mp (lt_of_le_of_lt hw h.1)

theorem CellOK.subset {w : Rat} {ss ss' : List Seg} {l u : Rat} (hsub : ∀ s ∈ ss', s ∈ ss)
    (h : CellOK w ss l u) : CellOK w ss' l u := ⟨h.1, fun s hs => h.2 s (hsub s hs)⟩

theorem CellOK.left {w : Rat} {a b : List Seg} {l u : Rat} (h : CellOK w (a ++ b) l u) : CellOK w a l u :=
  h.subset fun _ => List.mem_append_left _

theorem CellOK.right {w : Rat} {a b : List Seg} {l u : Rat} (h : CellOK w (a ++ b) l u) : CellOK w b l u :=
  h.subset fun _ => List.mem_append_right _

theorem ChainOK.subset {w : Rat} {ss ss' : List Seg} (hsub : ∀ s ∈ ss', s ∈ ss) {rest : List Rat} {u : Rat}
    (h : ChainOK w ss u rest) : ChainOK w ss' u rest := by
  induction rest generalizing u with
  | nil => trivial
  | cons l rest ih => exact ⟨h.1.subset hsub, ih h.2⟩

theorem ChainOK.swap {w : Rat} {a b : List Seg} {rest : List Rat} {u : Rat} (h : ChainOK w (a ++ b) u rest) :
    ChainOK w (b ++ a) u rest :=
  h.subset List.perm_append_comm.subset

theorem ChainOK.pairwise {w : Rat} (hw : 0 ≤ w) {ss : List Seg} {rest : List Rat} {u : Rat}
    (h : ChainOK w ss u rest) : (u :: rest).Pairwise (· > ·) := by
  induction rest generalizing u with
  | nil => exact List.pairwise_singleton _ _
  | cons l rest ih =>
    have ih := ih h.2
    exact List.pairwise_cons.mpr ⟨List.forall_mem_cons.mpr
      ⟨h.1.lt hw, fun x hx => lt_trans ((List.pairwise_cons.mp ih).1 x hx) (h.1.lt hw)⟩, ih⟩

theorem ChainOK.exists_cell {w : Rat} {ss : List Seg} {rest : List Rat} {u x : Rat} (hch : ChainOK w ss u rest)
    (hxu : x ≤ u) (hbx : (u :: rest).getLast (List.cons_ne_nil _ _) < x) :
    ∃ l' u', l' ∈ u :: rest ∧ u' ∈ u :: rest ∧ CellOK w ss l' u' ∧ l' ≤ x ∧ x ≤ u' := by
  induction rest generalizing u with
  | nil => exact absurd hxu (not_le.mpr hbx)
  | cons l rest ih =>
    rcases le_total l x with hlx | hxl
    · exact ⟨l, u, List.mem_cons_of_mem _ List.mem_cons_self, List.mem_cons_self, hch.1, hlx, hxu⟩
    · obtain ⟨l', u', m1, m2, c, a, b⟩ := ih hch.2 hxl (List.getLast_cons (List.cons_ne_nil _ _) ▸ hbx)
      exact ⟨l', u', List.mem_cons_of_mem _ m1, List.mem_cons_of_mem _ m2, c, a, b⟩

theorem cellOKb_iff (w : Rat) (ss : List Seg) (l u : Rat) : cellOKb w ss l u = true ↔ CellOK w ss l u := by
  simp only [cellOKb, CellOK, Bool.and_eq_true, Bool.or_eq_true, decide_eq_true_eq, List.all_eq_true, and_assoc]

theorem chainOKb_iff (w : Rat) (ss : List Seg) : ∀ (rest : List Rat) (u : Rat),
    chainOKb w ss u rest = true ↔ ChainOK w ss u rest := by
  intro rest
  induction rest with
  | nil => intro u; simp [chainOKb, ChainOK]
  | cons l rest ih => intro u; simp [chainOKb, ChainOK, cellOKb_iff, ih]

theorem active_iff {w : Rat} (hw : 0 ≤ w) {s : Seg} {l u : Rat}
    (hc : w < u - l) (h1 : s.lo ≤ l ∨ u ≤ s.lo) (h2 : s.hi ≤ l ∨ u ≤ s.hi) :
    active w s l u = true ↔ (s.lo ≤ l ∧ u ≤ s.hi) := by
  unfold active
  simp only [Bool.and_eq_true, decide_eq_true_eq]
  have hlu : l + w < u := lt_sub_iff_add_lt'.mp hc
  constructor
  · intro ⟨a, b⟩
    exact ⟨h1.resolve_right (not_le.mpr (b.trans_le (sub_le_self u hw))),
      h2.resolve_left (not_le.mpr ((le_add_of_nonneg_right hw).trans_lt a))⟩
  · intro ⟨a, b⟩
    exact ⟨hlu.trans_le b, a.trans_lt (lt_sub_iff_add_lt.mpr hlu)⟩

theorem above_cell {w : Rat} (hw : 0 ≤ w) {s : Seg} {l u x : Rat} (hc : w < u - l)
    (h : (s.lo ≤ l ∨ u ≤ s.lo) ∧ (s.hi ≤ l ∨ u ≤ s.hi) ∧ s.lo ≤ s.hi) (hlx : l ≤ x) (hxu : x ≤ u) :
    above s x = above s u + (u - x) * (if active w s l u then s.cp else 0) := by
  obtain ⟨h1, h2, h3⟩ := h
  have hlu : l ≤ u := hlx.trans hxu
  by_cases ha : s.lo ≤ l ∧ u ≤ s.hi
  · rw [if_pos ((active_iff hw hc h1 h2).mpr ha), above_span (le_trans ha.1 hlx) (le_trans hxu ha.2),
      above_span (le_trans ha.1 hlu) ha.2]
    ring
  · rw [if_neg (fun h => ha ((active_iff hw hc h1 h2).mp h)), mul_zero, add_zero]
    rcases h2 with h2 | h2
    · rw [above_top (le_trans h2 hlx), above_top (le_trans h2 hlu)]
    · have h1' : u ≤ s.lo := h1.resolve_left (fun a => ha ⟨a, h2⟩)
      rw [above_bottom h3 (le_trans hxu h1'), above_bottom h3 h1']

theorem cpSum_append (w : Rat) (a b : List Seg) (l u : Rat) :
    cpSum w (a ++ b) l u = cpSum w a l u + cpSum w b l u := by
  unfold cpSum; rw [List.map_append, List.sum_append]

theorem aboveAll_cell {w : Rat} (hw : 0 ≤ w) {ss : List Seg} {l u x : Rat} (h : CellOK w ss l u)
    (hlx : l ≤ x) (hxu : x ≤ u) : aboveAll ss x = aboveAll ss u + (u - x) * cpSum w ss l u := by
  unfold aboveAll cpSum
  rw [← List.sum_map_mul_left, ← List.sum_map_add]
  exact congrArg List.sum (List.map_congr_left fun s hs => above_cell hw h.1 (h.2 s hs) hlx hxu)

theorem deficit_cell {w : Rat} (hw : 0 ≤ w) {hot cold : List Seg} {l u x : Rat} (h : CellOK w (cold ++ hot) l u)
    (hlx : l ≤ x) (hxu : x ≤ u) :
    deficit hot cold x = deficit hot cold u + (u - x) * (cpSum w cold l u - cpSum w hot l u) := by
  unfold deficit
  rw [aboveAll_cell hw h.left hlx hxu, aboveAll_cell hw h.right hlx hxu, add_sub_add_comm, mul_sub]

def InRange (ss : List Seg) (bot top : Rat) : Prop := ∀ s ∈ ss, s.lo ≤ s.hi ∧ s.hi ≤ top ∧ bot ≤ s.lo

theorem InRange.subset {ss ss' : List Seg} {bot top : Rat} (hsub : ∀ s ∈ ss', s ∈ ss) (h : InRange ss bot top) :
    InRange ss' bot top := fun s hs => h s (hsub s hs)

theorem InRange.lo_le_hi {ss : List Seg} {bot top : Rat} (h : InRange ss bot top) : ∀ s ∈ ss, s.lo ≤ s.hi :=
  fun s hs => (h s hs).1

theorem InRange.left {a b : List Seg} {bot top : Rat} (h : InRange (a ++ b) bot top) : InRange a bot top :=
  h.subset fun _ => List.mem_append_left _

theorem InRange.right {a b : List Seg} {bot top : Rat} (h : InRange (a ++ b) bot top) : InRange b bot top :=
  h.subset fun _ => List.mem_append_right _

theorem InRange.swap {a b : List Seg} {bot top : Rat} (h : InRange (a ++ b) bot top) : InRange (b ++ a) bot top :=
  h.subset List.perm_append_comm.subset

theorem InRange.aboveAll_top {ss : List Seg} {bot top x : Rat} (h : InRange ss bot top) (hx : top ≤ x) :
    aboveAll ss x = 0 := OP.aboveAll_top fun s hs => le_trans (h s hs).2.1 hx

theorem InRange.aboveAll_bot {ss : List Seg} {bot top x : Rat} (h : InRange ss bot top) (hx : x ≤ bot) :
    aboveAll ss x = total ss := OP.aboveAll_bottom fun s hs => ⟨h.lo_le_hi s hs, le_trans hx (h s hs).2.2⟩

theorem InRange.deficit_top {hot cold : List Seg} {bot top x : Rat} (h : InRange (cold ++ hot) bot top)
    (hx : top ≤ x) : deficit hot cold x = 0 := by
  unfold deficit
  rw [h.left.aboveAll_top hx, h.right.aboveAll_top hx, sub_zero]

theorem InRange.deficit_bot {hot cold : List Seg} {bot top x : Rat} (h : InRange (cold ++ hot) bot top)
    (hx : x ≤ bot) : deficit hot cold x = total cold - total hot := by
  unfold deficit
  rw [h.left.aboveAll_bot hx, h.right.aboveAll_bot hx]

theorem InRange.deficit_le_total {hot cold : List Seg} {bot top : Rat} (h : InRange (cold ++ hot) bot top)
    (hcp : ∀ s ∈ cold ++ hot, 0 ≤ s.cp) (x : Rat) : deficit hot cold x ≤ total cold := by
  have b := fun ss (hs : ∀ s ∈ ss, s ∈ cold ++ hot) =>
    aboveAll_bounds ss x fun s m => ⟨hcp s (hs s m), h.lo_le_hi s (hs s m)⟩
  unfold deficit
  exact (sub_le_self _ (b hot fun _ => List.mem_append_right _).1).trans (b cold fun _ => List.mem_append_left _).2

theorem inRangeb_iff (ss : List Seg) (bot top : Rat) : inRangeb ss bot top = true ↔ InRange ss bot top := by
  simp only [inRangeb, InRange, Bool.and_eq_true, decide_eq_true_eq, List.all_eq_true, and_assoc]

theorem gridOKb_iff (w : Rat) (t0 : Rat) (rest : List Rat) (hot cold : List Seg) :
    gridOKb w (t0 :: rest) hot cold = true ↔
      (ChainOK w (cold ++ hot) t0 rest ∧
        InRange (cold ++ hot) ((t0 :: rest).getLast (List.cons_ne_nil _ _)) t0) := by
  simp [gridOKb, chainOKb_iff, inRangeb_iff]

/-- From the grid to every temperature: the net deficit is constant above the top row and below
    the bottom row, and affine on every cell in between, so a bound that holds on the rows holds
    everywhere. -/
theorem deficit_le_of_grid (w : Rat) (hw : 0 ≤ w) (hot cold : List Seg) (t0 : Rat) (rest : List Rat)
    (hr : InRange (cold ++ hot) ((t0 :: rest).getLast (List.cons_ne_nil _ _)) t0)
    (hch : ChainOK w (cold ++ hot) t0 rest) (q : Rat)
    (hmax : ∀ x ∈ t0 :: rest, deficit hot cold x ≤ q) : ∀ x : Rat, deficit hot cold x ≤ q := by
  intro x
  rcases le_total t0 x with hxt | hxt
  · rw [hr.deficit_top hxt, ← hr.deficit_top le_rfl]; exact hmax t0 List.mem_cons_self
  rcases le_or_gt x ((t0 :: rest).getLast (List.cons_ne_nil _ _)) with hxb | hbx
  · rw [hr.deficit_bot hxb, ← hr.deficit_bot le_rfl]; exact hmax _ (List.getLast_mem _)
  obtain ⟨l, u, ml, mu, hcell, hlx, hxu⟩ := hch.exists_cell hxt hbx
  -- affine on the cell, so below the larger of its two end values
  rw [deficit_cell hw hcell hlx hxu]
  rcases le_total 0 (cpSum w cold l u - cpSum w hot l u) with hc | hc
  · refine le_trans ?_ (hmax l ml)
    rw [deficit_cell hw hcell le_rfl (hcell.lt hw).le]
    exact add_le_add_right (mul_le_mul_of_nonneg_right (sub_le_sub_left hlx u) hc) _
  · exact le_trans (add_le_of_nonpos_right (mul_nonpos_of_nonneg_of_nonpos (sub_nonneg.mpr hxu) hc)) (hmax u mu)

theorem mem_insertDesc {x y : Rat} : ∀ {l : List Rat}, y ∈ insertDesc x l → y = x ∨ y ∈ l := by
  intro l
  induction l with
  | nil => intro h; exact Or.inl (List.mem_singleton.mp h)
  | cons z zs ih =>
    intro h
    unfold insertDesc at h
    split_ifs at h
    · exact List.mem_cons.mp h
    · exact Or.inr h
    · rcases List.mem_cons.mp h with rfl | h
      · exact Or.inr List.mem_cons_self
      · exact (ih h).imp_right (List.mem_cons_of_mem _)

end OP

/- C16 helpers: sanitised names are clean, the alternative-name search is bounded and correct,
   how a load/target history acts on what `target` returns. -/
import OPModel.Model.Sheet
import Mathlib.Data.List.Basic

namespace OP.C16
open OP OP.Sheet

def Clean (s : Str) : Prop := ∀ c ∈ s, c ∉ forbidden

theorem clean_sublist {a b : Str} (h : a.Sublist b) (hb : Clean b) : Clean a :=
  fun c hc => hb c (h.subset hc)

theorem Clean.append {a b : Str} (ha : Clean a) (hb : Clean b) : Clean (a ++ b) :=
  List.forall_mem_append.mpr ⟨ha, hb⟩

theorem rstripP_sublist (p : Char → Bool) (s : Str) : (rstripP p s).Sublist s := by
  unfold rstripP
  have := (List.dropWhile_sublist p (l := s.reverse)).reverse
  simpa using this

/-- Both `_sanitize_sheet_name` and `_unique_sheet_name` fall back to `"Sheet"` for an empty name. -/
theorem Clean.orSheet {t : Str} (h : Clean t) : Clean (if t.isEmpty then "Sheet".toList else t) := by
  split_ifs
  · rw [String.toList_ofList]; unfold Clean; decide +kernel
  · exact h

theorem sanitize_clean (name : Str) : Clean (sanitize name) := by
  unfold sanitize
  refine Clean.orSheet (clean_sublist ((rstripP_sublist _ _).trans
    ((rstripP_sublist _ _).trans (List.dropWhile_sublist _))) ?_)
  refine List.forall_mem_map.mpr fun d _ hf => ?_
  split_ifs at hf with h
  · revert hf; decide +kernel
  · exact h (List.contains_iff_mem.mpr hf)

theorem suffix_eq (i : Nat) : suffix i = ' ' :: '(' :: (Nat.toDigits 10 i ++ [')']) := by
  simp [suffix]

theorem suffix_clean (i : Nat) : Clean (suffix i) := by
  have hf : ∀ f ∈ forbidden, f ≠ ' ' ∧ f ≠ '(' ∧ f ≠ ')' ∧ f.isDigit = false := by decide +kernel
  intro c hc hcf
  obtain ⟨h1, h2, h3, h4⟩ := hf c hcf
  simp only [suffix_eq, List.mem_cons, List.mem_append, List.not_mem_nil, or_false, h1, h2, h3, false_or] at hc
  exact Bool.false_ne_true (h4.symm.trans (Nat.isDigit_of_mem_toDigits (by decide) (by decide) hc))

/-- Indices below 1000 have at most three digits. -/
theorem suffix_length_le {i : Nat} (hi : i < 1000) : (suffix i).length ≤ 6 := by
  have := (Nat.length_toDigits_le_iff (b := 10) (k := 3) (by decide) (by decide)).mpr hi
  rw [suffix_eq]
  simp only [List.length_cons, List.length_append, List.length_nil]
  exact Nat.add_le_add_right this 3

/-- The candidate cut back to leave room for a suffix of `k` characters. -/
theorem trim_eq (cand : Str) (k : Nat) :
    (if cand.length + k > 31 then cand.take (31 - k) else cand) = cand.take (31 - k) := by
  split_ifs with h
  · rfl
  · exact (List.take_of_length_le (Nat.le_sub_of_add_le (Nat.le_of_not_gt h))).symm

theorem findAlt_spec {cand : Str} (hc : Clean cand) {used : List Str} {fuel idx : Nat} {alt : Str}
    (hb : idx + fuel ≤ 1000) (h : findAlt cand used fuel idx = some alt) :
    alt ∉ used ∧ alt.length ≤ 31 ∧ Clean alt := by
  induction fuel generalizing idx with
  | zero => cases h
  | succ n ih =>
    simp only [findAlt, trim_eq] at h
    split_ifs at h with hu
    · exact ih (by omega) h
    · obtain rfl := Option.some.inj h  -- `cases h` would set out to evaluate `suffix idx`
      have hs : (suffix idx).length ≤ 31 := Nat.le_trans (suffix_length_le (show idx < 1000 by omega)) (by decide)
      refine ⟨by simpa using hu, ?_, (clean_sublist (List.take_sublist _ _) hc).append (suffix_clean idx)⟩
      rw [List.length_append]
      exact Nat.le_trans (Nat.add_le_add_right (List.length_take_le _ _) _) (Nat.le_of_eq (Nat.sub_add_cancel hs))

theorem uniqueName_spec {base : Str} {used : List Str} {n : Str} {used' : List Str}
    (h : uniqueName base used = .ok (n, used')) :
    n ∉ used ∧ used' = n :: used ∧ n.length ≤ 31 ∧ Clean n := by
  unfold uniqueName at h
  simp only at h
  have hclean := (clean_sublist (List.take_sublist 31 _) (sanitize_clean base)).orSheet
  have hlen : (if ((sanitize base).take 31).isEmpty then "Sheet".toList else (sanitize base).take 31).length ≤ 31 := by
    split_ifs
    · rw [String.toList_ofList]; decide
    · exact List.length_take_le _ _
  generalize (if ((sanitize base).take 31).isEmpty then "Sheet".toList else (sanitize base).take 31) = cand
    at h hclean hlen
  split_ifs at h with hu
  · cases h
    exact ⟨by simpa using hu, rfl, hlen, hclean⟩
  · split at h
    · next alt hf =>
      cases h
      obtain ⟨a, b, c⟩ := findAlt_spec hclean (by omega) hf
      exact ⟨a, rfl, b, c⟩
    · cases h

def wrun (w : Wrapper) : List WOp → Wrapper
  | [] => w
  | op :: ops => wrun (wstep w op).1 ops

def wrunLegacy (w : Wrapper) : List WOp → Wrapper
  | [] => w
  | op :: ops => wrunLegacy (wstepLegacy w op).1 ops

/-- project name a source gives a fresh wrapper -/
def srcName : Src → Option Nat
  | .file k => some k
  | _ => none

/-- what the load performed last stands for (specification: a function of that one operation) -/
def lastLoad (ops : List WOp) : Option Res :=
  ops.foldl (fun acc op => match op with | .load i s => some (i, srcName s) | .target => acc) none

/-- One step, seen through what `target` would return afterwards: a load decides the answer, a target
    leaves it as it was.  No invariant of the cache is needed: this holds of every wrapper. -/
theorem target_step (w : Wrapper) (op : WOp) :
    (wstep (wstep w op).1 .target).2 =
      (match op with | .load i s => some (i, srcName s) | .target => (wstep w .target).2) := by
  cases op with
  | load i src => cases src <;> rfl
  | target =>
    cases hc : w.cached with
    | some r => simp only [wstep, hc]
    | none => cases hl : w.loaded <;> simp only [wstep, hc, hl]

theorem target_run (w : Wrapper) (ops : List WOp) :
    (wstep (wrun w ops) .target).2 =
      ops.foldl (fun acc op => match op with | .load i s => some (i, srcName s) | .target => acc)
        (wstep w .target).2 := by
  induction ops generalizing w with
  | nil => rfl
  | cons op ops ih => rw [wrun, ih, target_step, List.foldl_cons]

theorem foldl_targets (post : List WOp) (h : ∀ op ∈ post, op = .target) (acc : Option Res) :
    post.foldl (fun acc op => match op with | .load i s => some (i, srcName s) | .target => acc) acc = acc :=
  List.foldlRecOn (motive := (· = acc)) post _ rfl fun _ ha op hop => by rw [h op hop]; exact ha

end OP.C16

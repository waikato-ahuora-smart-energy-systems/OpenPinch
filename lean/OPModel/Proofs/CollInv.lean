/-
  C19 helpers, collection half: what the dictionary write and the key-renaming loop do to the key list; the
  invariant `Inv` (distinct keys, sort cache valid unless marked dirty), which every mutator keeps by marking the
  cache dirty (`inv_of_dirty`) and `ensureSorted` by refilling it; and the sort keys as projections into a linear
  order (`keyOf`, `keyLe_iff`), from which `sorted(...)` returns an ordered permutation (`sortObjs_spec`).
-/
import OPModel.Model.Collection
import OPModel.Proofs.Basic
import Std.Data.String.ToNat
import Mathlib.Data.Prod.Lex

namespace OP.Coll

theorem dictSet_of_not_mem (d : List (String × Obj)) (k : String) (v : Obj)
    (h : k ∉ d.map (·.1)) : dictSet d k v = d ++ [(k, v)] := by
  induction d with
  | nil => rfl
  | cons p rest ih =>
    obtain ⟨k', v'⟩ := p
    rw [List.map_cons, List.mem_cons, not_or] at h
    rw [dictSet, if_neg (Ne.symm h.1), ih h.2, List.cons_append]

theorem dictSet_keys_of_mem (d : List (String × Obj)) (k : String) (v : Obj)
    (h : k ∈ d.map (·.1)) : (dictSet d k v).map (·.1) = d.map (·.1) := by
  induction d with
  | nil => exact absurd h List.not_mem_nil
  | cons p rest ih =>
    obtain ⟨k', v'⟩ := p
    rw [dictSet]
    by_cases e : k' = k
    · rw [if_pos e, List.map_cons, List.map_cons, e]
    · rw [if_neg e, List.map_cons, List.map_cons, ih ((List.mem_cons.mp h).resolve_left fun hk => e hk.symm)]

theorem dictSet_length_of_mem (d : List (String × Obj)) (k : String) (v : Obj)
    (h : k ∈ d.map (·.1)) : (dictSet d k v).length = d.length := by
  simpa only [List.length_map] using congrArg List.length (dictSet_keys_of_mem d k v h)

theorem nodup_keys_append {d : List (String × Obj)} (h : (d.map (·.1)).Nodup) {k : String}
    (hk : k ∉ d.map (·.1)) (o : Obj) : ((d ++ [(k, o)]).map (·.1)).Nodup := by
  rw [List.map_append]
  exact List.Nodup.append h (List.nodup_singleton k) (List.disjoint_singleton.mpr hk)

theorem dictSet_nodup (d : List (String × Obj)) (k : String) (v : Obj)
    (h : (d.map (·.1)).Nodup) : ((dictSet d k v).map (·.1)).Nodup := by
  by_cases hk : k ∈ d.map (·.1)
  · rw [dictSet_keys_of_mem d k v hk]; exact h
  · rw [dictSet_of_not_mem d k v hk]; exact nodup_keys_append h hk v

theorem length_filter_key_ne {d : List (String × Obj)} {k : String} (hnd : (d.map (·.1)).Nodup)
    (hmem : k ∈ d.map (·.1)) : (d.filter (·.1 ≠ k)).length + 1 = d.length := by
  -- the keys are distinct, so exactly one entry has key `k`, and the filter drops that one
  have h1 : d.countP (fun e => e.1 == k) = 1 := by
    rw [← List.count_eq_one_of_mem hnd hmem, List.count_eq_countP, List.countP_map]
    rfl
  rw [← List.countP_eq_length_filter, List.length_eq_countP_add_countP (fun e => e.1 == k) (l := d), h1, Nat.add_comm]
  simp only [beq_iff_eq, ne_eq]

theorem freshKey_eq_find (ks : List String) (orig : String) (fuel c : Nat) :
    freshKey ks orig fuel c = ((List.range' c fuel).find? fun n =>
      !ks.contains (orig ++ "_" ++ Nat.repr n)).map fun n => orig ++ "_" ++ Nat.repr n := by
  induction fuel generalizing c with
  | zero => rfl
  | succ n ih =>
    rw [freshKey, List.range'_succ, List.find?_cons]
    simp only [ih]
    cases ks.contains (orig ++ "_" ++ Nat.repr c) <;> rfl

theorem freshKey_some (ks : List String) (orig : String) (fuel c : Nat) (h : ks.length < fuel) :
    ∃ k, freshKey ks orig fuel c = some k ∧ k ∉ ks := by
  obtain ⟨r, hr⟩ := exists_find_free (fun n => orig ++ "_" ++ Nat.repr n) ks _ c fuel
    (fun _ _ hab => Nat.repr_injective ((String.append_right_inj _).mp hab))
    (fun n hn => List.contains_iff_mem.mp hn) h
  exact ⟨_, by rw [freshKey_eq_find, hr]; rfl, by simpa using List.find?_some hr⟩

structure Inv (c : Coll) : Prop where
  nodup : c.keys.Nodup
  cache : c.dirty = false → c.cache = sortObjs c.key c.rev c.values

theorem inv_of_dirty {c : Coll} (hk : c.keys.Nodup) (hd : c.dirty = true) : Inv c :=
  ⟨hk, fun h => absurd (hd.symm.trans h) Bool.noConfusion⟩

theorem inv_empty : Inv {} := inv_of_dirty List.nodup_nil rfl

theorem add_prevent_eq (c : Coll) (o : Obj) (key : Option String) :
    ∃ k, k ∉ c.keys ∧ c.add o key true = .ok { c with entries := c.entries ++ [(k, o)], dirty := true } := by
  unfold add
  by_cases hk : c.hasKey (key.getD o.name) = true
  · obtain ⟨k, hkk, hnm⟩ := freshKey_some c.keys (key.getD o.name) (c.entries.length + 1) 1
      (by rw [keys, List.length_map]; exact Nat.lt_succ_self _)
    exact ⟨k, hnm, by simp only [Bool.true_and, hk, if_true, hkk]⟩
  · have hnm : key.getD o.name ∉ c.keys := fun hm => hk (List.contains_iff_mem.mpr hm)
    exact ⟨_, hnm, by simp only [Bool.true_and, hk, dictSet_of_not_mem _ _ _ hnm]; rfl⟩

theorem add_prevent_spec {c : Coll} (o : Obj) (key : Option String) (h : Inv c) :
    ∃ c', c.add o key true = .ok c' ∧ c'.values = c.values ++ [o] ∧ c'.len = c.len + 1 ∧ Inv c' := by
  obtain ⟨k, hk, e⟩ := add_prevent_eq c o key
  exact ⟨_, e, List.map_append, List.length_append, inv_of_dirty (nodup_keys_append h.nodup hk o) rfl⟩

theorem add_inv {c : Coll} (o : Obj) (key : Option String) (p : Bool) (h : Inv c) :
    ∃ c', c.add o key p = .ok c' ∧ Inv c' := by
  cases p with
  | true =>
    obtain ⟨c', e, -, -, i⟩ := add_prevent_spec o key h
    exact ⟨c', e, i⟩
  | false => exact ⟨_, rfl, inv_of_dirty (dictSet_nodup c.entries _ o h.nodup) rfl⟩

theorem addMany_prevent_spec (os : List Obj) {c : Coll} (h : Inv c) :
    ∃ c', c.addMany os true = .ok c' ∧ c'.values = c.values ++ os ∧
      c'.len = c.len + os.length ∧ Inv c' := by
  induction os generalizing c with
  | nil => exact ⟨c, rfl, (List.append_nil _).symm, rfl, h⟩
  | cons o os ih =>
    obtain ⟨c1, e1, v1, l1, i1⟩ := add_prevent_spec o none h
    obtain ⟨c2, e2, v2, l2, i2⟩ := ih i1
    refine ⟨c2, ?_, ?_, ?_, i2⟩
    · simp only [addMany, List.foldlM_cons, e1]
      exact e2
    · rw [v2, v1, List.append_assoc, List.singleton_append]
    · rw [l2, l1, List.length_cons, Nat.add_assoc, Nat.add_comm 1]

theorem addMany_inv (os : List Obj) (p : Bool) {c : Coll} (h : Inv c) : ∃ c', c.addMany os p = .ok c' ∧ Inv c' := by
  induction os generalizing c with
  | nil => exact ⟨c, rfl, h⟩
  | cons o os ih =>
    obtain ⟨c1, e1, i1⟩ := add_inv o none p h
    obtain ⟨c2, e2, i2⟩ := ih i1
    exact ⟨c2, by simp only [addMany, List.foldlM_cons, e1]; exact e2, i2⟩

theorem remove_inv {c : Coll} {k : String} (h : Inv c) {c' : Coll} (hc : c.remove k = .ok c') :
    Inv c' ∧ c'.len + 1 = c.len := by
  unfold remove at hc
  split at hc
  · rename_i hk
    cases hc
    exact ⟨inv_of_dirty (h.nodup.sublist (List.filter_sublist.map _)) rfl,
      length_filter_key_ne h.nodup (List.contains_iff_mem.mp hk)⟩
  · cases hc

theorem replace_inv (c : Coll) (os : List Obj) : Inv (c.replace os) :=
  inv_of_dirty (List.foldlRecOn (motive := fun d => (d.map (·.1)).Nodup) os _ (b := []) List.nodup_nil
    fun d hd o _ => dictSet_nodup d o.name o hd) rfl

theorem ensureSorted_spec {c : Coll} (h : Inv c) :
    Inv c.ensureSorted ∧ c.ensureSorted.cache = sortObjs c.key c.rev c.values ∧
    c.ensureSorted.entries = c.entries ∧ c.ensureSorted.key = c.key ∧ c.ensureSorted.rev = c.rev := by
  unfold ensureSorted
  cases hd : c.dirty with
  | true => exact ⟨⟨h.nodup, fun _ => rfl⟩, rfl, rfl, rfl, rfl⟩
  | false => exact ⟨h, h.cache hd, rfl, rfl, rfl⟩

theorem getIndex_fst (c : Coll) (o : Obj) : (c.getIndex o).1 = c.ensureSorted := by
  unfold getIndex
  simp only
  split <;> rfl

theorem getItemInt_fst (c : Coll) (i : Int) : (c.getItemInt i).1 = c.ensureSorted := by
  unfold getItemInt
  simp only
  generalize (if i < 0 then i + (c.ensureSorted.cache.length : Int) else i) = j
  split
  · split <;> rfl
  · rfl

/-- what a sort key compares: `(primary, secondary)`, lexicographically -/
def keyOf (k : SortKey) (a : Obj) : ℚ ×ₗ ℚ :=
  toLex (match k with
    | .ts => (a.ts, 0)
    | .tt => (a.tt, 0)
    | .ttTs => (a.tt, a.ts)
    | .tsTt => (a.ts, a.tt))

theorem keyLe_iff (k : SortKey) (a b : Obj) : k.le a b = true ↔ keyOf k a ≤ keyOf k b := by
  cases k <;>
    simp only [SortKey.le, keyOf, Prod.Lex.toLex_le_toLex, Bool.or_eq_true, Bool.and_eq_true, decide_eq_true_eq,
      le_refl, and_true, ← le_iff_lt_or_eq]

theorem keyLe_total (k : SortKey) (a b : Obj) : (k.le a b || k.le b a) = true := by
  rw [Bool.or_eq_true, keyLe_iff, keyLe_iff]
  exact le_total _ _

theorem keyLe_trans (k : SortKey) (a b c : Obj) (h1 : k.le a b = true) (h2 : k.le b c = true) : k.le a c = true :=
  (keyLe_iff k a c).mpr (le_trans ((keyLe_iff k a b).mp h1) ((keyLe_iff k b c).mp h2))

theorem sortObjs_spec (k : SortKey) (rev : Bool) (xs : List Obj) :
    (sortObjs k rev xs).Perm xs ∧
    (sortObjs k rev xs).Pairwise (fun a b => if rev then k.le b a = true else k.le a b = true) := by
  cases rev
  · exact ⟨List.mergeSort_perm _ _,
      List.pairwise_mergeSort (fun a b c => keyLe_trans k a b c) (fun a b => keyLe_total k a b) xs⟩
  · exact ⟨List.mergeSort_perm _ _, List.pairwise_mergeSort (le := fun a b => k.le b a)
      (fun a b c h1 h2 => keyLe_trans k c b a h2 h1) (fun a b => keyLe_total k b a) xs⟩

end OP.Coll

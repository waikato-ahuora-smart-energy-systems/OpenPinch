/- C15 helpers: the costing formulas read over the reals. -/
import OPModel.Model.Costing
import OPModel.Proofs.HXReal

namespace OP.Costing
open OP OP.HX Real

theorem powPos_real (x c : ℝ) (hx : 0 < x) : powPos realOps x c = x ^ c := by
  show Real.exp (c * Real.log x) = x ^ c
  rw [Real.rpow_def_of_pos hx, mul_comm]

theorem powPos_nat (x : ℝ) (hx : 0 < x) (n : ℕ) : powPos realOps x (n : ℝ) = x ^ n := by
  rw [powPos_real x _ hx, Real.rpow_natCast]

theorem crf_natCast (i : ℝ) (h1 : 0 < 1 + i) (n : ℕ) :
    crf realOps i (n : ℝ) = i * (1 + i) ^ n / ((1 + i) ^ n - 1) := by
  rw [← powPos_nat _ h1]
  rfl

theorem one_lt_growth {i : ℝ} (hi : 0 < i) {n : ℕ} (hn : 1 ≤ n) : 1 < (1 + i) ^ n :=
  one_lt_pow₀ (lt_add_of_pos_right 1 hi) (Nat.one_le_iff_ne_zero.mp hn)

theorem crf_pos {i : ℝ} (hi : 0 < i) {n : ℕ} (hn : 1 ≤ n) : 0 < crf realOps i (n : ℝ) := by
  have h1 : 0 < 1 + i := one_add_pos_real hi.le
  rw [crf_natCast i h1]
  exact div_pos_real (mul_pos_real hi (pow_pos h1 n)) (sub_pos_real (one_lt_growth hi hn))

/-- The present value of an annuity of 1 over `n` years at rate `i` is `((1 + i) ^ n - 1) / (i (1 + i) ^ n)`, the
    reciprocal of the capital-recovery factor; stated without the division, so that `i = 0` needs no exception. -/
theorem annuity_sum (i : ℝ) (h1 : 1 + i ≠ 0) (n : ℕ) :
    (∑ k ∈ Finset.range n, 1 / (1 + i) ^ (k + 1)) * (i * (1 + i) ^ n) = (1 + i) ^ n - 1 := by
  induction n with
  | zero => rw [Finset.sum_range_zero, zero_mul, pow_zero, sub_self]
  | succ n ih =>
    rw [Finset.sum_range_succ, add_mul, one_div_mul_eq_div, mul_div_cancel_right₀ i (pow_ne_zero _ h1), pow_succ]
    linear_combination (1 + i) * ih

theorem areaTerm_real (Q R L : ℝ) : areaTerm realOps Q R L = Q * R / L := by
  show Q / (1 / R * L) = Q * R / L
  rw [one_div, inv_mul_eq_div, div_div_eq_mul_div]

end OP.Costing

/-
  C07, C08: the requested temperatures.  `insert_temperature_interval` keeps the requests farther than
  `tol` from every row (`needInsert`), files them above, inside and below the table, and sorts and
  de-duplicates each group.  Here: what sorting and de-duplication guarantee, and the one equation
  through which every theorem about `insertTemps` reads its result (`insertTemps_eq`; only its two companions
  `insertTemps_badOp` and `insertTemps_congr` unfold the function as well).
-/
import OPModel.Model.Table
import OPModel.Proofs.Basic
import Mathlib.Data.List.Chain
import Mathlib.Data.List.Sort

namespace OP

theorem sortDesc_perm (xs : List Rat) : (sortDesc xs).Perm xs := List.mergeSort_perm _ _

theorem sortDesc_pairwise (xs : List Rat) : (sortDesc xs).Pairwise (fun a b => b ≤ a) :=
  List.pairwise_mergeSort' (· ≥ ·) xs

theorem sortDesc_eq_of_perm {xs ys : List Rat} (h : xs.Perm ys) : sortDesc xs = sortDesc ys :=
  ((sortDesc_perm xs).trans (h.trans (sortDesc_perm ys).symm)).eq_of_pairwise' (sortDesc_pairwise xs)
    (sortDesc_pairwise ys)

theorem sortDesc_nil : sortDesc [] = [] := List.mergeSort_nil

theorem dedupeMono_go_sublist (tol last : Rat) (xs : List Rat) : (dedupeMono.go tol last xs).Sublist xs := by
  induction xs generalizing last with
  | nil => exact List.Sublist.slnil
  | cons x xs ih =>
    simp only [dedupeMono.go]
    split
    · exact (ih x).cons_cons x
    · exact (ih last).cons x

theorem dedupeMono_sublist (tol : Rat) : ∀ xs : List Rat, (dedupeMono tol xs).Sublist xs
  | [] => List.Sublist.slnil
  | x :: xs => (dedupeMono_go_sublist tol x xs).cons_cons x

theorem dedupeMono_go_chain (tol : Rat) : ∀ {xs : List Rat} {last : Rat}, (last :: xs).Pairwise (fun a b => b ≤ a) →
    List.IsChain (fun a b => b + tol < a) (last :: dedupeMono.go tol last xs) := by
  intro xs
  induction xs with
  | nil => exact fun _ => List.isChain_singleton _
  | cons x xs ih =>
    intro last hp
    obtain ⟨h1, hp'⟩ := List.pairwise_cons.mp hp
    have hx : x ≤ last := h1 x List.mem_cons_self
    simp only [dedupeMono.go]
    split
    · rename_i hgap
      rw [rabs_sub_of_le hx] at hgap
      exact List.isChain_cons_cons.mpr ⟨lt_sub_iff_add_lt'.mp hgap, ih hp'⟩
    · exact ih
        (List.pairwise_cons.mpr ⟨fun y hy => h1 y (List.mem_cons_of_mem _ hy), (List.pairwise_cons.mp hp').2⟩)

theorem dedupeMono_gaps {tol : Rat} (htol : 0 ≤ tol) {xs : List Rat} (hp : xs.Pairwise (fun a b => b ≤ a)) :
    (dedupeMono tol xs).Pairwise (fun a b => b + tol < a) := by
  cases xs with
  | nil => exact List.Pairwise.nil
  | cons a as =>
    have : IsTrans Rat (fun a b => b + tol < a) := ⟨fun _ _ _ h1 h2 =>
      h2.trans ((le_add_of_nonneg_right htol).trans_lt h1)⟩
    exact (dedupeMono_go_chain tol hp).pairwise

theorem dedupeMono_sortDesc_pairwise {tol : Rat} (htol : 0 ≤ tol) (xs : List Rat) :
    (dedupeMono tol (sortDesc xs)).Pairwise (fun a b => b < a) :=
  (dedupeMono_gaps htol (sortDesc_pairwise xs)).imp (lt_of_le_of_lt (le_add_of_nonneg_right htol))

theorem mem_dedupe_sort_filter {tol : Rat} {xs : List Rat} {p : Rat → Bool} {y : Rat}
    (hy : y ∈ dedupeMono tol (sortDesc (xs.filter p))) : y ∈ xs ∧ p y = true :=
  List.mem_filter.mp ((sortDesc_perm _).subset ((dedupeMono_sublist tol _).subset hy))

theorem needInsert_perm (tol : Rat) (Ts : List Rat) {xs ys : List Rat} (h : xs.Perm ys) :
    (needInsert tol Ts xs).Perm (needInsert tol Ts ys) := h.filter _

theorem needInsert_eq_nil (tol : Rat) (Ts vals : List Rat)
    (h : ∀ v ∈ vals, ∃ t ∈ Ts, rabs (t - v) ≤ tol) : needInsert tol Ts vals = [] := by
  unfold needInsert
  apply List.filter_eq_nil_iff.mpr
  intro v hv
  obtain ⟨t, ht, hle⟩ := h v hv
  simp only [List.all_eq_true, decide_eq_true_eq, not_forall]
  exact ⟨t, ht, not_lt.mpr hle⟩

theorem bucket_eq_of_perm (tol hi lo : Rat) {xs ys : List Rat} (h : xs.Perm ys) :
    bucket tol hi lo xs = bucket tol hi lo ys := by
  unfold bucket
  rw [sortDesc_eq_of_perm (h.filter _)]

theorem bucket_nil (tol hi lo : Rat) : bucket tol hi lo [] = [] := by
  rw [bucket, List.filter_nil, sortDesc_nil]
  rfl

theorem bucket_mem (tol hi lo : Rat) (mid : List Rat) : ∀ t ∈ bucket tol hi lo mid, lo + tol < t ∧ t < hi - tol := by
  intro t ht
  have := (mem_dedupe_sort_filter ht).2
  simp only [Bool.and_eq_true, decide_eq_true_eq, Bool.not_eq_true'] at this
  exact ⟨this.2, this.1.2⟩

theorem walk_cons (cfg : TblCfg) (tol : Rat) (mid : List Rat) (up : Row) (upT : Rat) (lo : Row) (loT : Rat)
    (rest : List (Row × Rat)) :
    walk cfg tol mid up upT ((lo, loT) :: rest) =
      (midBlock cfg tol up lo upT loT (bucket tol upT loT mid)).1 ::
        (midBlock cfg tol up lo upT loT (bucket tol upT loT mid)).2.1 ++
          walk cfg tol mid (midBlock cfg tol up lo upT loT (bucket tol upT loT mid)).2.2 loT rest := by rfl

theorem walk_eq_of_perm (cfg : TblCfg) (tol : Rat) {xs ys : List Rat} (h : xs.Perm ys) (up : Row) (upT : Rat)
    (pairs : List (Row × Rat)) : walk cfg tol xs up upT pairs = walk cfg tol ys up upT pairs := by
  induction pairs generalizing up upT with
  | nil => rfl
  | cons p rest ih => rw [walk_cons, walk_cons, bucket_eq_of_perm tol upT p.2 h, ih]

theorem walk_nil (cfg : TblCfg) (tol : Rat) (up : Row) (upT : Rat) (pairs : List (Row × Rat)) :
    walk cfg tol [] up upT pairs = up :: pairs.map (·.1) := by
  induction pairs generalizing up upT with
  | nil => rfl
  | cons p rest ih =>
    rw [walk_cons, bucket_nil, ih]
    rfl

theorem temps_eq_some_iff {cfg : TblCfg} : ∀ {rows : List Row} {Ts : List Rat},
    temps cfg rows = some Ts ↔ List.Forall₂ (fun r t => r.get cfg.tI = some t) rows Ts := by
  intro rows
  induction rows with
  | nil =>
    intro Ts
    rw [List.forall₂_nil_left_iff]
    exact ⟨fun h => (Option.some.inj h).symm, fun h => h ▸ rfl⟩
  | cons r rows ih =>
    intro Ts
    unfold temps
    rw [List.mapM_cons, List.forall₂_cons_left_iff]
    simp only [Option.bind_eq_bind, Option.bind_eq_some_iff, Option.pure_def, Option.some.injEq]
    constructor
    · rintro ⟨t, ht, ts, hts, rfl⟩
      exact ⟨t, ts, ht, ih.mp hts, rfl⟩
    · rintro ⟨t, ts, ht, hts, rfl⟩
      exact ⟨t, ht, ts, ih.mpr hts, rfl⟩

theorem temps_length {cfg : TblCfg} {rows : List Row} {Ts : List Rat} (h : temps cfg rows = some Ts) :
    Ts.length = rows.length :=
  (temps_eq_some_iff.mp h).length_eq.symm

theorem strictlyDesc_of_pairwise : ∀ (Ts : List Rat), Ts.Pairwise (fun a b => b < a) → strictlyDesc Ts = true := by
  intro Ts h
  induction Ts with
  | nil => rfl
  | cons a Ts ih =>
    cases Ts with
    | nil => rfl
    | cons b Ts =>
      simp only [strictlyDesc, Bool.and_eq_true, decide_eq_true_eq]
      exact ⟨(List.pairwise_cons.mp h).1 b List.mem_cons_self, ih (List.pairwise_cons.mp h).2⟩

/-- `top_temps` of `_categorise_insertion_targets`, sorted and de-duplicated: the requests above a
    table whose hottest temperature is `t0`. -/
def topsOf (tol t0 : Rat) (need : List Rat) : List Rat :=
  dedupeMono tol (sortDesc (need.filter fun v => decide (t0 < v)))

/-- `bottom_temps`: the requests below a table whose coldest temperature is `tLast`. -/
def botsOf (tol tLast : Rat) (need : List Rat) : List Rat :=
  dedupeMono tol (sortDesc (need.filter fun v => decide (v < tLast)))

/-- `mid_temps`: the requests left for the intervals of the table (`bucket` files them). -/
def midOf (t0 tLast : Rat) (need : List Rat) : List Rat :=
  need.filter fun v => !(decide (t0 < v)) && !(decide (v < tLast))

/-- The concatenation at the end of `insert_temperature_interval`: top block, the old rows with the
    middle blocks between them, bottom block. -/
def assemble (cfg : TblCfg) (tol : Rat) (r0 : Row) (rest : List Row) (t0 : Rat) (ts : List Rat)
    (tops mid bots : List Rat) : List Row :=
  (topBlock cfg r0 t0 tops).1 ++ walk cfg tol mid (topBlock cfg r0 t0 tops).2 t0 (rest.zip ts)
    ++ bottomBlock cfg ((r0 :: rest).getLast (List.cons_ne_nil _ _)) ((t0 :: ts).getLast (List.cons_ne_nil _ _)) bots

/-- The table `insertTemps` returns for the rows `r0 :: rest` with temperatures `t0 :: ts`. -/
def rebuilt (cfg : TblCfg) (tol : Rat) (r0 : Row) (rest : List Row) (t0 : Rat) (ts : List Rat) (vals : List Rat) :
    List Row :=
  let need := needInsert tol (t0 :: ts) vals
  let tLast := (t0 :: ts).getLast (List.cons_ne_nil _ _)
  assemble cfg tol r0 rest t0 ts (topsOf tol t0 need) (midOf t0 tLast need) (botsOf tol tLast need)

theorem insertTemps_eq {cfg : TblCfg} (tol : Rat) {r0 : Row} {rest : List Row} {t0 : Rat} {ts : List Rat} (vals : List Rat)
    (hT : temps cfg (r0 :: rest) = some (t0 :: ts)) (hsd : strictlyDesc (t0 :: ts) = true) :
    insertTemps cfg tol (r0 :: rest) vals =
      .ok (rebuilt cfg tol r0 rest t0 ts vals, (rebuilt cfg tol r0 rest t0 ts vals).length - (r0 :: rest).length) := by
  unfold insertTemps
  rw [hT]
  simp only [hsd, Bool.not_true, Bool.false_eq_true, if_false]
  rfl

theorem insertTemps_badOp {cfg : TblCfg} (tol : Rat) {r0 : Row} {rest : List Row} {t0 : Rat} {ts : List Rat} (vals : List Rat)
    (hT : temps cfg (r0 :: rest) = some (t0 :: ts)) (hsd : strictlyDesc (t0 :: ts) = false) :
    insertTemps cfg tol (r0 :: rest) vals = .error .badOp := by
  unfold insertTemps
  rw [hT]
  simp only [hsd, Bool.not_false, if_true]

theorem insertTemps_congr {cfg : TblCfg} {tol : Rat} (rows : List Row) {xs ys : List Rat}
    (h : ∀ r0 rest t0 ts, rebuilt cfg tol r0 rest t0 ts xs = rebuilt cfg tol r0 rest t0 ts ys) :
    insertTemps cfg tol rows xs = insertTemps cfg tol rows ys := by
  unfold insertTemps
  cases temps cfg rows with
  | none => rfl
  | some Ts =>
    cases rows with
    | nil => rfl
    | cons r0 rest =>
      cases Ts with
      | nil => rfl
      | cons t0 ts =>
        -- once the matches have reduced, the only sub-term that mentions the requests is `rebuilt …` unfolded
        have := h r0 rest t0 ts
        simp only [rebuilt, assemble, topsOf, midOf, botsOf] at this
        simp only [this]

theorem rebuilt_eq_of_perm (cfg : TblCfg) (tol : Rat) (r0 : Row) (rest : List Row) (t0 : Rat) (ts : List Rat)
    {xs ys : List Rat} (h : xs.Perm ys) : rebuilt cfg tol r0 rest t0 ts xs = rebuilt cfg tol r0 rest t0 ts ys := by
  have hn := needInsert_perm tol (t0 :: ts) h
  simp only [rebuilt, assemble, topsOf, botsOf, midOf, sortDesc_eq_of_perm (hn.filter _), walk_eq_of_perm cfg tol (hn.filter _)]

theorem topsOf_desc {tol : Rat} (htol : 0 ≤ tol) (t0 : Rat) (need : List Rat) :
    (topsOf tol t0 need ++ [t0]).Pairwise (fun a b => b < a) := by
  apply List.pairwise_append.mpr
  refine ⟨dedupeMono_sortDesc_pairwise htol _, List.pairwise_singleton _ _, ?_⟩
  intro a ha b hb
  rw [List.mem_singleton.mp hb]
  exact of_decide_eq_true (mem_dedupe_sort_filter ha).2

theorem botsOf_desc {tol : Rat} (htol : 0 ≤ tol) (tLast : Rat) (need : List Rat) :
    (tLast :: botsOf tol tLast need).Pairwise (fun a b => b < a) := by
  apply List.pairwise_cons.mpr
  refine ⟨?_, dedupeMono_sortDesc_pairwise htol _⟩
  intro a ha
  exact of_decide_eq_true (mem_dedupe_sort_filter ha).2

theorem rebuilt_of_needInsert_nil (cfg : TblCfg) (tol : Rat) (r0 : Row) (rest : List Row) (t0 : Rat) (ts vals : List Rat)
    (hn : needInsert tol (t0 :: ts) vals = []) (hl : ts.length = rest.length) :
    rebuilt cfg tol r0 rest t0 ts vals = r0 :: rest := by
  have : (rest.zip ts).map (·.1) = rest := List.map_fst_zip hl.ge
  simp only [rebuilt, hn, topsOf, botsOf, midOf, List.filter_nil, sortDesc_nil, dedupeMono, assemble, topBlock,
    List.reverse_nil, bottomBlock, edgeChain, walk_nil, this, List.nil_append, List.append_nil]

theorem insertTemps_shape {cfg : TblCfg} {tol : Rat} (htol : 0 ≤ tol) {r0 : Row} {rest : List Row} {t0 : Rat}
    {ts vals : List Rat} (ht0 : r0.get cfg.tI = some t0) (hts : List.Forall₂ (fun r t => r.get cfg.tI = some t) rest ts)
    {out : List Row} {n : Nat}
    (he : insertTemps cfg tol (r0 :: rest) vals = .ok (out, n)) :
    ∃ tops mid bots, tops.Pairwise (fun a b => b < a) ∧ (∀ y ∈ tops, t0 < y ∧ y ∈ vals) ∧
      ((t0 :: ts).getLast (List.cons_ne_nil _ _) :: bots).Pairwise (fun a b => b < a) ∧
      out = assemble cfg tol r0 rest t0 ts tops mid bots := by
  have hT : temps cfg (r0 :: rest) = some (t0 :: ts) := temps_eq_some_iff.mpr (.cons ht0 hts)
  cases hsd : strictlyDesc (t0 :: ts) with
  | false => rw [insertTemps_badOp tol vals hT hsd] at he; cases he
  | true =>
    rw [insertTemps_eq tol vals hT hsd] at he
    obtain ⟨h1, -, h2⟩ := List.pairwise_append.mp (topsOf_desc htol t0 (needInsert tol (t0 :: ts) vals))
    exact ⟨_, _, _, h1, fun y hy => ⟨h2 y hy t0 List.mem_cons_self,
      (List.mem_filter.mp (mem_dedupe_sort_filter hy).1).1⟩, botsOf_desc htol _ _,
      (Prod.mk.inj (Except.ok.inj he)).1.symm⟩

end OP

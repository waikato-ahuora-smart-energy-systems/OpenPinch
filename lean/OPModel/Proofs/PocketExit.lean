/-
  C07 helpers, where a pocket ends.  `_pocket_exit_index` finds the last row before the curve drops
  at least `tol` under the pocket's opening value — every row it passes over stays above `h0 - tol`,
  the row after the exit does not, and when no row drops the search runs to the pinch row inclusive.
  `linear_interpolation` then gives the closing temperature as a convex combination of the two
  temperatures around the exit.
-/
import OPModel.Model.Pockets
import OPModel.Proofs.Basic
import Mathlib.Tactic.Ring

namespace OP

/-- row `k` steps from `i0` towards the pinch -/
def stepRow (above : Bool) (i0 : Int) (k : Nat) : Int := if above then i0 + (k : Int) else i0 - (k : Int)

theorem forall_from_of_succ {Q : Nat → Prop} {k N : Nat} (hk : Q k) (h : ∀ m, k + 1 ≤ m → m < N → Q m) :
    ∀ m, k ≤ m → m < N → Q m :=
  fun m h1 h2 => (Nat.eq_or_lt_of_le h1).elim (fun e => e ▸ hk) (fun h1 => h m h1 h2)

/-- The loop behind `_pocket_exit_index`, in the words of `C07.exit_search_spec`: it stops at the first step whose value
    has dropped to `h0 - tol`, every step before it staying above, or runs through all `N` steps. -/
theorem pocketExit_go_spec {tol : Rat} {rows : List Row} {cH : Nat} {i0 pinch : Int} {above : Bool} {h0 : Rat} :
    ∀ {fuel k : Nat} {e : Int}, pocketExit.go tol rows cH i0 pinch above h0 fuel k = .ok e →
      (∃ k', k ≤ k' ∧ k' < k + fuel ∧ e = stepRow above i0 k' - (if above then 1 else -1) ∧
          (∃ hj, cellAt rows cH (stepRow above i0 k') = .ok hj ∧ hj + tol ≤ h0) ∧
          ∀ m, k ≤ m → m < k' → ∃ hj, cellAt rows cH (stepRow above i0 m) = .ok hj ∧ h0 < hj + tol) ∨
      (e = pinch ∧ ∀ m, k ≤ m → m < k + fuel → ∃ hj, cellAt rows cH (stepRow above i0 m) = .ok hj ∧ h0 < hj + tol) := by
  intro fuel
  induction fuel with
  | zero =>
    intro k e h
    cases h
    exact Or.inr ⟨rfl, fun m h1 h2 => absurd h2 (Nat.not_lt.mpr h1)⟩
  | succ fuel ih =>
    intro k e h
    obtain ⟨hj, hc, h⟩ := Except.bind_ok h
    by_cases hd : hj + tol ≤ h0
    · rw [if_pos hd] at h
      cases h
      refine Or.inl ⟨k, le_refl k, Nat.lt_add_of_pos_right (Nat.succ_pos fuel), ?_, ⟨hj, hc, hd⟩,
        fun m h1 h2 => absurd h2 (Nat.not_lt.mpr h1)⟩
      unfold stepRow
      cases above
      · exact (sub_neg_eq_add _ _).symm
      · rfl
    · -- row `k` stays above and joins the rows passed over by the rest of the search
      rw [if_neg hd] at h
      have hk : ∃ hj, cellAt rows cH (stepRow above i0 k) = .ok hj ∧ h0 < hj + tol := ⟨hj, hc, not_le.mp hd⟩
      rw [Nat.add_comm fuel 1, ← Nat.add_assoc]
      rcases ih h with ⟨k', hk1, hk2, he, hdrop, hbefore⟩ | ⟨he, hall⟩
      · exact Or.inl ⟨k', Nat.le_of_succ_le hk1, hk2, he, hdrop, forall_from_of_succ hk hbefore⟩
      · exact Or.inr ⟨he, forall_from_of_succ hk hall⟩

theorem linearInterpolation_eq {xi x1 x2 y1 y2 r : Rat} (h : linearInterpolation xi x1 x2 y1 y2 = .ok r) :
    x1 ≠ x2 ∧ r = y1 + (x1 - xi) / (x1 - x2) * (y2 - y1) := by
  unfold linearInterpolation at h
  split_ifs at h with hx
  refine ⟨hx, ?_⟩
  rw [← Except.ok.inj h]
  ring

theorem convex_between (a b lam : Rat) (h0 : 0 ≤ lam) (h1 : lam ≤ 1) :
    min a b ≤ a + lam * (b - a) ∧ a + lam * (b - a) ≤ max a b := by
  rcases le_total a b with hle | hle
  · rw [min_eq_left hle, max_eq_right hle]
    have hd := sub_nonneg.mpr hle
    exact ⟨le_add_of_nonneg_right (Rat.mul_nonneg h0 hd), le_sub_iff_add_le'.mp (mul_le_of_le_one_left hd h1)⟩
  · rw [min_eq_right hle, max_eq_left hle]
    have hd := sub_nonpos.mpr hle
    exact ⟨sub_le_iff_le_add'.mp (le_mul_of_le_one_left hd h1),
      add_le_of_nonpos_right (mul_nonpos_of_nonneg_of_nonpos h0 hd)⟩

end OP
